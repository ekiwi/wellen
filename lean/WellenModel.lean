-- Root of the `WellenModel` library.
import WellenModel.Gen.Tables
import WellenModel.Model.Proto
import WellenModel.Model.Offset
import WellenModel.Model.Bits
import WellenModel.Model.Store
import WellenModel.Model.Spec
import WellenModel.Model.VcdBody
import WellenModel.Model.Hier
import WellenModel.Model.HierDump
import WellenModel.Model.Slice
import WellenModel.Model.Fst
import WellenModel.Model.Load
import WellenModel.Model.Detect
import WellenModel.Model.Py
import WellenModel.Model.Serde
import WellenModel.Model.VcdHeader
import WellenModel.Model.VcdHeaderDump
import WellenModel.Model.Tree
import WellenModel.Model.Ghw
import WellenModel.Model.GhwSpec
import WellenModel.Proofs.Offset
import WellenModel.Proofs.Pack
import WellenModel.Proofs.Entry
import WellenModel.Proofs.Tables
import WellenModel.Proofs.TimeTable
import WellenModel.Proofs.Canon
import WellenModel.Proofs.PushCanon
import WellenModel.Props.C02
import WellenModel.Props.C03
import WellenModel.Props.C04
import WellenModel.Props.C05
import WellenModel.Props.C06
import WellenModel.Proofs.Detect
import WellenModel.Proofs.Fst
import WellenModel.Proofs.Hier
import WellenModel.Proofs.HierBuilder
import WellenModel.Proofs.HierRefine
import WellenModel.Proofs.HierObs
import WellenModel.Proofs.Load
import WellenModel.Proofs.Serde
import WellenModel.Proofs.Slice
import WellenModel.Proofs.VcdHeader
import WellenModel.Proofs.VcdLex
import WellenModel.Proofs.VcdStop
import WellenModel.Props.C01
import WellenModel.Props.C07
import WellenModel.Props.C08
import WellenModel.Props.C09
import WellenModel.Props.C10
import WellenModel.Props.C11
import WellenModel.Props.C13
import WellenModel.Props.C14
import WellenModel.Props.C15
import WellenModel.Props.C16
import WellenModel.Props.C17
import WellenModel.Props.C18
import WellenModel.Props.C12
import WellenModel.Model.FstFile
import WellenModel.Proofs.Stream
import WellenModel.Proofs.Block
import WellenModel.Proofs.Write
import WellenModel.Proofs.EvOps
import WellenModel.Proofs.SpecStep
import WellenModel.Proofs.SpecPrefix
import WellenModel.Proofs.Truncation
import WellenModel.Proofs.Refine
import WellenModel.Proofs.RefineAll
import WellenModel.Proofs.Raw
import WellenModel.Proofs.Mt
import WellenModel.Proofs.SplitFree
import WellenModel.Proofs.FstRefine
