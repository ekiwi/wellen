import WellenModel.Proofs.VcdHeader
/-!
# C09 — VCD declarations appear in the hierarchy as declared

Model: `Model/VcdHeader.lean` (byte-level header reader, callback, name / bit range parsing, attribute stack)
feeding the pointer-level builder of C08. The theorems cover the clauses of the property that are pure
functions of one declaration; the composition (text ↦ tree) is checked by the correspondence run,
where the generator's declaration list is interpreted on the abstract hierarchy of C08.
-/
namespace Wellen.VcdHeader
open Wellen.VcdBody Wellen.Store

/-- **variables share a signal exactly when they share an identifier code** — for the direct mapping
(`id_to_int`) and for the hashed mapping the header reader switches to, for every list of declarations -/
theorem C09_share_iff (vars : List (List Nat × SigType)) (i j : Nat) (p q : List Nat × SigType)
    (hp : vars[i]? = some p) (hq : vars[j]? = some q) :
    (mkDecls vars).varSig[i]? = (mkDecls vars).varSig[j]? ↔ p.1 = q.1 := by
  rw [varSig_get vars i p hp, varSig_get vars j q hq]
  have hpm : p.1 ∈ vars.map (·.1) := List.mem_map.mpr ⟨p, List.mem_of_getElem? hp, rfl⟩
  have hqm : q.1 ∈ vars.map (·.1) := List.mem_map.mpr ⟨q, List.mem_of_getElem? hq, rfl⟩
  constructor
  · intro h
    cases hm : needMap (vars.map (·.1)) with
    | true =>
      simp only [hm, ↓reduceIte, Option.some.injEq] at h
      exact getD_inj (indexOf?_inj _) (indexOf?_dedup _ p.1 hpm) (indexOf?_dedup _ q.1 hqm) (Nat.add_right_cancel h)
    | false =>
      simp only [hm, Bool.false_eq_true, ↓reduceIte, Option.some.injEq] at h
      exact getD_inj idToInt_inj (idToInt_some_of_needMap_false _ {} hm p.1 hpm) (idToInt_some_of_needMap_false _ {} hm q.1 hqm) h
  · intro h; rw [h]

/-- **bit ranges survive the packed representation**: `VarIndex::new(msb, lsb)` followed by `msb()` / `lsb()`
returns the declared bounds — negative ones included — whenever `msb - lsb` fits an `i32` -/
theorem C09_index_roundtrip (msb lsb : Int) (h1 : -(2 ^ 31 : Int) < msb - lsb) (h2 : msb - lsb < 2 ^ 31) :
    mkIndex msb lsb = { msb := msb, lsb := lsb } := by
  unfold mkIndex
  have hw : ((msb - lsb + 2 ^ 31) % 2 ^ 32) - 2 ^ 31 = msb - lsb := by
    rw [Int.emod_eq_of_lt (by omega) (by omega)]; omega
  simp only [hw]
  by_cases h0 : msb - lsb = 0
  · rw [if_pos h0, if_pos rfl, Int.sub_eq_zero.mp h0]
  · have h3 : ¬ (msb - lsb = -(2 ^ 31 : Int)) := fun e => by rw [e] at h1; exact absurd h1 (Int.lt_irrefl _)
    rw [if_neg h0, if_neg h3, Int.sub_add_cancel]

/-- `[i]` is the one-bit range `i:i` -/
theorem C09_index_single (i : Int) : mkIndex i i = { msb := i, lsb := i } :=
  C09_index_roundtrip i i (by omega) (by omega)

/-- a width of 0 is read as 1 -/
theorem C09_width_zero (kind : String) : encOf kind 0 = encOf kind 1 := rfl

/-- scope and variable keywords: the generated tables list every keyword once, so the lookup returns the table's kind -/
theorem C09_keywords_unique :
    (Gen.scopeKw.map (·.1)).Nodup ∧ (Gen.varKw.map (·.1)).Nodup ∧ (Gen.unitKw.map (·.1)).Nodup := by
  decide +kernel

/-- the flag under which a scope is dissolved is "the option is set and the name is empty". Stated for a body of two tokens, where the
name is a token and the flag therefore `false`; the empty name is the body of one token (`rest.headD []`), which `hb` leaves out -/
theorem C09_scope_flatten (removeEmpty : Bool) (h : Header) (tp name : List Nat) (kind : String)
    (hk : lookupKw Gen.scopeKw tp = some kind) (body : List Nat)
    (hb : (findTokens body).map (·.2) = [tp, name]) :
    ∃ src, applyCmd removeEmpty h "scope" body =
      .ok (some { h with attrs := [], ops := .scope kind (strOf name) (removeEmpty && name.isEmpty) src :: h.ops }) := by
  refine ⟨pendingLoc h.attrs, ?_⟩
  simp only [applyCmd, String.reduceEq, ↓reduceIte, hb, hk, List.headD_cons]

/-- `$date` is stored verbatim (`$version` is treated by the same lines of `applyCmd`; it has no theorem of its own) -/
theorem C09_date_verbatim (removeEmpty : Bool) (h : Header) (body : List Nat) (hd : h.date = "") :
    applyCmd removeEmpty h "date" body = .ok (some { h with date := strOf body }) := by
  simp only [applyCmd, String.reduceEq, ↓reduceIte, hd, ne_eq, not_true_eq_false]

/-- **`[msb:lsb]` is read back as declared** — for every base name ending in a non-space character `c`, any number of spaces
before the bracket and after it, negative bounds included (`numTxt` = optional `-` + decimal digits, `sval` its value): the
variable is named by the text before the range and the index is `VarIndex::new(msb, lsb)`, which returns the declared
bounds by `C09_index_roundtrip` -/
theorem C09_range_parse (pre : List Nat) (c : Nat) (sp1 sp2 : List Nat) (n1 n2 : Bool) (d1 d2 : List Nat)
    (hc : c ≠ 32) (hs1 : isSpaces sp1) (hs2 : isSpaces sp2) (hd1 : isDigits d1) (hd2 : isDigits d2) :
    extractSuffixIndex (pre ++ [c] ++ sp1 ++ [91] ++ numTxt n1 d1 ++ [58] ++ numTxt n2 d2 ++ [93] ++ sp2) =
      (pre ++ [c], some (mkIndex (sval n1 d1) (sval n2 d2))) := by
  rw [extractSuffixIndex_eq, extractGo_spaces hs2, extractGo_close, extractGo_num (.lsb _) n2 hd2, extractGo_colon, extractGo_num (.msb _ _) n1 hd1,
    extractGo_open_msb, extractGo_spaces hs1]
  exact extractGo_name hc (by simp)

/-- `[i]` likewise: the one-bit range `i:i` -/
theorem C09_single_parse (pre : List Nat) (c : Nat) (sp1 sp2 : List Nat) (n : Bool) (d : List Nat)
    (hc : c ≠ 32) (hs1 : isSpaces sp1) (hs2 : isSpaces sp2) (hd : isDigits d) :
    extractSuffixIndex (pre ++ [c] ++ sp1 ++ [91] ++ numTxt n d ++ [93] ++ sp2) =
      (pre ++ [c], some (mkIndex (sval n d) (sval n d))) := by
  rw [extractSuffixIndex_eq, extractGo_spaces hs2, extractGo_close, extractGo_num (.lsb _) n hd, extractGo_open_lsb, extractGo_spaces hs1]
  exact extractGo_name hc (by simp)

example : decVal [49, 50, 51] = 123 ∧ sval true [55] = -7 ∧ numTxt true [55] = [45, 55] := by decide +kernel

/-- non-vacuity: `[7:0]`, `[-2]`, a space before the range, two groups -/
example : extractSuffixIndex (bytesOfStr "data[7:0]") = (bytesOfStr "data", some { msb := 7, lsb := 0 }) := by decide +kernel
example : extractSuffixIndex (bytesOfStr "x [-2]") = (bytesOfStr "x", some { msb := -2, lsb := -2 }) := by decide +kernel
example : extractSuffixIndex (bytesOfStr "x[ -1 : -8 ]") = (bytesOfStr "x", some { msb := -1, lsb := -8 }) := by decide +kernel
example : parseName (bytesOfStr "mem[3][1] [7:0]") = some (bytesOfStr "[1]", some { msb := 7, lsb := 0 }, [bytesOfStr "mem", bytesOfStr "[3]"]) := by decide +kernel
example : idToInt [33] = some 0 ∧ idToInt [34, 33] = some 95 := by decide +kernel

/-- **extra bracket groups become array scopes**: a variable written `base [g1] … [gn] [msb:lsb]` (n ≥ 1; any spaces in
front of each group and around the bit range; group contents free of brackets; the base not ending in `]` or a space;
negative bounds allowed) is declared as the variable `[gn]` with the bit range `msb:lsb`, inside the array scopes `base`,
`[g1]`, …, `[g(n-1)]` — outermost first -/
theorem C09_array_scopes (b : List Nat) (hb1 : b.getLast? ≠ some 93) (hb2 : b.getLast? ≠ some 32)
    (r : List (List Nat × List Nat)) (sp c : List Nat)
    (hg : ∀ g ∈ r ++ [(sp, c)], (∀ x ∈ g.1, x = 32) ∧ 91 ∉ g.2 ∧ 93 ∉ g.2)
    (sp1 sp2 : List Nat) (n1 n2 : Bool) (d1 d2 : List Nat)
    (hs1 : isSpaces sp1) (hs2 : isSpaces sp2) (hd1 : isDigits d1) (hd2 : isDigits d2) :
    parseName (withGroups b (r ++ [(sp, c)]) ++ sp1 ++ [91] ++ numTxt n1 d1 ++ [58] ++ numTxt n2 d2 ++ [93] ++ sp2) =
      some (grp c, some (mkIndex (sval n1 d1) (sval n2 d2)), b :: r.map (fun g => grp g.2)) := by
  -- what stands before the bit range ends in the `]` of the last group: `C09_range_parse` with that byte as `c`
  have hname : withGroups b (r ++ [(sp, c)]) = (withGroups b r ++ sp ++ [91] ++ c) ++ [93] := by
    rw [withGroups_snoc]; simp [grp]
  have hx := C09_range_parse (withGroups b r ++ sp ++ [91] ++ c) 93 sp1 sp2 n1 n2 d1 d2 (by decide) hs1 hs2 hd1 hd2
  rw [← hname] at hx
  refine (parseName_of_parts hx (groups_withGroups b hb1 hb2 _ (fun g h => ⟨(hg g h).1, (hg g h).2.1⟩) _ [] ?_)).trans (by simp [List.reverse_append])
  exact Nat.le_trans (withGroups_length b _) (List.IsPrefix.length_le (by simp))

/-- non-vacuity: `mem [3][1] [7:0]` is the variable `[1]` with range 7:0 inside the array scopes `mem`, `[3]` -/
example : parseName (bytesOfStr "mem [3][1] [7:0]") =
    some (bytesOfStr "[1]", some { msb := 7, lsb := 0 }, [bytesOfStr "mem", bytesOfStr "[3]"]) := by decide +kernel

end Wellen.VcdHeader
