import WellenModel.Proofs.Hier
import WellenModel.Proofs.HierRefine
import WellenModel.Proofs.HierObs
/-!
# C08 — the hierarchy is a well-formed, fully navigable tree

Two models: the pointer-level `Builder` (the code's representation: node arrays, child / next /
parent links, scope stack with sentinel and flattened entries, `find_last_child` on re-opening) and
the abstract specification `SpecSt` (nodes in declaration order with a parent pointer).
`C08_wellformed` and `C08_sibling_scopes_distinct` hold of the specification after EVERY balanced operation sequence;
`C08_children` … `C08_reopen_continues` say what its observers (`childrenOf`, `findIdx?`, re-opening a scope) return on
any node list.
`C08_builder_refines_spec` (`Proofs/HierRefine.lean`, a simulation proof over all operation sequences) ties the
pointer-level model to it: for every balanced history the builder does not panic and its arrays, links, scope stack and
cached last children represent exactly the specification's node list; `C08_walk_refines` reads the navigation
observers off that relation (the item iterator of the top level and of every scope yields exactly the specification's
children in declaration order, names / signals / parents agree); `C08_full_names` and `C08_lookups` do the same for
`full_name` and `lookup_scope` / `lookup_var` / `lookup_var_with_index`. The real code is tied to the pointer-level model by
the exhaustive small-scope + random differential run (every navigation observer is compared).
-/
namespace Wellen.Hier

/-- for every balanced history: parents are scopes declared earlier (a forest in declaration order,
hence every walk terminates), sibling scopes have distinct names, open scopes exist -/
theorem C08_wellformed (ops : List Op) (s : SpecSt) (h : specRun ops = some s) : Inv s :=
  inv_run inv_init h

/-- no two sibling scopes share a name -/
theorem C08_sibling_scopes_distinct (ops : List Op) (s : SpecSt) (h : specRun ops = some s)
    (i j : Nat) (a b : FNode) (hij : i ≠ j) (ha : s.nodes[i]? = some a) (hb : s.nodes[j]? = some b)
    (sa : a.isScope = true) (sb : b.isScope = true) (hp : a.parent = b.parent) : a.name ≠ b.name := by
  have hi := C08_wellformed ops s h
  rcases Nat.lt_or_gt_of_ne hij with hlt | hgt
  · exact hi.distinct i j a b hlt ha hb sa sb hp
  · exact fun e => hi.distinct j i b a hgt hb ha sb sa hp.symm e.symm

/-- the items of a scope (or of the top level) are exactly the nodes whose parent it is — so the
walk from the top visits every node exactly once: each node is listed under its one parent -/
theorem C08_children (nodes : List FNode) (p : Option Nat) (i : Nat) :
    i ∈ childrenOf nodes p ↔ i < nodes.length ∧ (nodes.getD i default).parent = p :=
  mem_childrenOf

/-- … in declaration order -/
theorem C08_children_ordered (nodes : List FNode) (p : Option Nat) :
    (childrenOf nodes p).Pairwise (· < ·) := by
  unfold childrenOf
  exact List.Pairwise.filter _ (List.pairwise_lt_range)

/-- selecting the scopes and selecting the variables of ANY index list `l` gives two sublists of `l` (order kept) whose
lengths add up to the length of `l`: what makes vars() and scopes() an order-preserving partition of items() once `l`
is a list of items -/
theorem C08_partition (nodes : List FNode) (l : List Nat) :
    (l.filter fun i => (nodes.getD i default).isScope).Sublist l ∧
    (l.filter fun i => !(nodes.getD i default).isScope).Sublist l ∧
    (l.filter fun i => (nodes.getD i default).isScope).length +
      (l.filter fun i => !(nodes.getD i default).isScope).length = l.length := by
  exact ⟨List.filter_sublist, List.filter_sublist,
    by simpa [List.countP_eq_length_filter] using (List.length_eq_countP_add_countP (fun i => (nodes.getD i default).isScope) (l := l)).symm⟩

/-- lookups return the first declared item with the requested parent, kind and name -/
theorem C08_lookup_first (p : FNode → Bool) (nodes : List FNode) (j : Nat) (h : findIdx? p nodes 0 = some j) :
    (∃ n, nodes[j]? = some n ∧ p n = true) ∧ ∀ i, i < j → ∀ n, nodes[i]? = some n → p n = false := by
  obtain ⟨hj, h3, h4⟩ := findIdx?_spec h
  refine ⟨⟨_, getElem?_getD hj, h3⟩, fun i hi n hn => ?_⟩
  cases (getElem?_getD (lt_of_getElem? hn)).symm.trans hn
  exact h4 i hi

/-- opening a scope whose name a sibling scope already has continues that scope: nothing is added -/
theorem C08_reopen_continues (s : SpecSt) (name : String) (fl : Bool) (j : Nat)
    (h : findIdx? (fun n => n.isScope && n.parent == curParent s.stack && n.name == name) s.nodes 0 = some j) :
    specStep s (.scope name fl) = some { s with stack := .scope j :: s.stack } := by
  simp [specStep, h]

/-- **the pointer-level builder refines the specification**: for every balanced operation sequence (every order of
`add_scope` — new, re-opened, dissolved —, `add_var` and `pop_scope`) the model of `HierarchyBuilder` does not panic and
ends in a state that represents the specification's node list under a numbering `ids` (`Rel`: same number of nodes,
names / signals / parents agree, the child / next links of every scope and of the top level spell exactly the children in
declaration order, the scope stack with its cached last children mirrors the open scopes) -/
theorem C08_builder_refines_spec (ops : List Op) (s : SpecSt) (h : specRun ops = some s) :
    ∃ b ids, run ops = some b ∧ Rel b s ids :=
  rel_run ops {} {} s [] rel_init h

/-- what the observers see: walking from the first item visits exactly the top-level nodes, walking from a scope's first
child exactly that scope's children — in declaration order, each once (`ids` is injective) — and every visited item
carries the declared name, signal and parent -/
theorem C08_walk_refines (ops : List Op) (s : SpecSt) (h : specRun ops = some s) :
    ∃ b ids, run ops = some b ∧ ids.length = s.nodes.length ∧ ids.Nodup ∧
      itemsOf b b.firstItem = (childrenOf s.nodes none).map (idAt ids) ∧
      (∀ (j k : Nat), ids[j]? = some (ItemId.scope k) →
        itemsOf b (b.scopes.getD k default).child = (childrenOf s.nodes (some j)).map (idAt ids)) ∧
      (∀ (i : Nat) (n : FNode) (x : ItemId), s.nodes[i]? = some n → ids[i]? = some x → NodeRel b ids n x) := by
  obtain ⟨b, ids, hrun, hr⟩ := C08_builder_refines_spec ops s h
  refine ⟨b, ids, hrun, hr.len, hr.nodup, items_eq_kids b s ids hr none, ?_, hr.node⟩
  intro j k hjk
  have := items_eq_kids b s ids hr (some j)
  rwa [firstOf_scope b ids j k hjk] at this

/-- **full names** of the represented hierarchy: the builder's `full_name` of every scope and variable (climbing the parent
links) is the specification's dotted path of ancestor names — for every state `Rel` relates, hence (with
`C08_builder_refines_spec`) after every balanced history -/
theorem C08_full_names (b : Builder) (s : SpecSt) (ids : List ItemId) (hr : Rel b s ids) (j k : Nat) :
    (ids[j]? = some (ItemId.scope k) → scopeFullName b k = specFullName s.nodes s.nodes.length j) ∧
    (ids[j]? = some (ItemId.var k) → varFullName b k = specFullName s.nodes s.nodes.length j) := by
  refine ⟨fun h => ?_, fun h => ?_⟩
  · exact scopeFullName_eq hr h (Nat.le_of_lt (hr.node_of_id h).1)
  · exact varFullName_eq hr h (Nat.le_of_lt (hr.node_of_id h).1)

/-- **lookups** on the represented hierarchy return the item the specification designates: the first declared scope of
each name along the path, then the first declared variable with the name (and index) -/
theorem C08_lookups (b : Builder) (s : SpecSt) (ids : List ItemId) (hr : Rel b s ids) (path : List String) (name : String) :
    lookupScope b path = (specLookupScope s.nodes none path).bind (fun j => scopeIdx (idAt ids j)) ∧
    lookupVar b path name = (specLookupVar s.nodes path name).bind (fun j => varIdx (idAt ids j)) ∧
    lookupVarIdx b path name = (specLookupVarIdx s.nodes path name).bind (fun j => varIdx (idAt ids j)) := by
  -- the two variable lookups are one search with two tests on the name
  have h1 := lookup_var_generic hr path (fun nm => decide (baseName nm = baseName name))
  have h2 := lookup_var_generic hr path (fun nm => decide (nm = name))
  exact ⟨(lookupScope_eq hr path).1, by cases path <;> exact h1, by cases path <;> exact h2⟩

/-- non-vacuity of the refinement: the history below (re-opened scope, dissolved empty scope) runs on the builder -/
example : ∃ b, run [.scope "a" false, .var "x" 0, .pop, .scope "a" false, .scope "" true, .var "y" 1, .pop, .pop] = some b ∧
    b.scopes.size = 1 ∧ b.vars.size = 2 := ⟨_, rfl, rfl, rfl⟩

/-- non-vacuity: a balanced history with a re-opened scope and a dissolved empty scope -/
example : ∃ s, specRun [.scope "a" false, .var "x" 0, .pop, .scope "a" false, .scope "" true, .var "y" 1, .pop, .pop] = some s ∧
    s.nodes.length = 3 := ⟨_, rfl, rfl⟩

end Wellen.Hier
