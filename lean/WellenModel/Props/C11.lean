import WellenModel.Model.Ghw
import WellenModel.Model.GhwSpec
import WellenModel.Proofs.Slice
/-!
# C11 — GHW files load faithfully

Model: `Model/Ghw.lean` (byte-level reader, type classification, signal tracker, per-bit vector buffer, value
dispatch into the store model). Specification: `Model/GhwSpec.lean` (an abstract design and the waveform it
denotes). The theorems are about the pure components the byte-level reader is built from; the composition
(file ↦ waveform) is checked by the correspondence run (impl = model = spec on generated files).
-/
namespace Wellen.Ghw
open Wellen.Bits Wellen.Store Wellen.Slice

/-- A byte as `8 / w` fields of `w` bits. Overwriting field `k` with `v < 2 ^ w` the way `VecBuffer::set_value` does
(clear the field through the inverted mask, or the shifted value in, truncate to a byte) makes field `j` read `v` if `j = k` and
what it held before otherwise. Bit by bit: bit `i` of field `j` is bit `j * w + i` of the byte, which lies in field `k` iff `j = k`. -/
theorem field_set_get {w old k j v : Nat} (hv : v < 2 ^ w) (hj : (j + 1) * w ≤ 8) :
    ((((old &&& (255 - ((2 ^ w - 1) <<< (k * w)) % 256)) ||| (v <<< (k * w))) % 256) >>> (j * w)) &&& (2 ^ w - 1)
      = if j = k then v else (old >>> (j * w)) &&& (2 ^ w - 1) := by
  rw [show ∀ y, 255 - y = 2 ^ 8 - (y + 1) from fun y => (Nat.succ_sub_succ 255 y).symm, show (256 : Nat) = 2 ^ 8 from rfl]
  apply Nat.eq_of_testBit_eq
  intro i
  have hm : ((2 ^ w - 1) <<< (k * w)) % 2 ^ 8 < 2 ^ 8 := Nat.mod_lt _ (by decide)
  simp only [Nat.testBit_and, Nat.testBit_shiftRight, Nat.testBit_mod_two_pow, Nat.testBit_or,
    Nat.testBit_two_pow_sub_succ hm, Nat.testBit_shiftLeft, Nat.testBit_two_pow_sub_one]
  have hvhi : ∀ n, w ≤ n → v.testBit n = false := fun n hn =>
    Nat.testBit_lt_two_pow (Nat.lt_of_lt_of_le hv (Nat.pow_le_pow_right (by decide) hn))
  rw [Nat.succ_mul] at hj
  by_cases hi : i < w
  · have h8 : j * w + i < 8 := by omega
    rcases Nat.lt_trichotomy j k with hjk | hjk | hjk
    · have := Nat.mul_le_mul_right w hjk
      rw [Nat.succ_mul] at this
      have hlt : ¬ j * w + i ≥ k * w := by omega
      simp [hi, h8, hlt, Nat.ne_of_lt hjk, Nat.testBit_shiftRight]
    · subst hjk
      simp [hi, h8]
    · have := Nat.mul_le_mul_right w hjk
      rw [Nat.succ_mul] at this
      have hge : j * w + i ≥ k * w := by omega
      have hw : ¬ j * w + i - k * w < w := by omega
      simp [hi, h8, hge, hw, hvhi _ (Nat.le_of_not_lt hw), Nat.ne_of_gt hjk, Nat.testBit_shiftRight]
  · have := hvhi i (Nat.le_of_not_lt hi)
    split <;> simp [hi, this]

/-- a vector buffer whose data has the length `from_vec_info` allocates -/
def VecBuf.WF (v : VecBuf) : Prop := v.data.length = divCeil v.bits v.st.bib ∧ ∀ b ∈ v.data, b < 256

/-- **the symbol at position `bit` of the assembled value is the value written for that bit; all other
positions keep their symbol** (`symAt` is the addressing `slice_signal` and the renderer use, see C13) -/
theorem C11_set_get (v : VecBuf) (hwf : v.WF) (bit j value : Nat) (hb : bit < v.bits) (hj : j < v.bits) (hv : value ≤ v.st.mask) :
    symAt v.st (v.setValue bit value).data j = (if j = bit then value else symAt v.st v.data j) := by
  have hbib := bib_pos v.st
  have h1 := div_lt_divCeil hbib hb
  have h2 := div_lt_divCeil hbib hj
  have hlen := hwf.1
  simp only [symAt, VecBuf.setValue, dataIndex, List.length_set, hwf.1, List.getD_eq_getElem?_getD]
  generalize divCeil v.bits v.st.bib = D at *
  by_cases hsame : j / v.st.bib = bit / v.st.bib
  · -- same byte: the field lemma, and `j = bit` iff the positions inside the byte agree
    rw [hsame, List.getElem?_set_self (by rw [hlen]; exact Nat.sub_one_sub_lt h1), Option.getD_some]
    have hfield : (j % v.st.bib + 1) * v.st.bits ≤ 8 := by
      rw [← bits_mul_bib v.st, Nat.mul_comm]
      exact Nat.mul_le_mul_left _ (Nat.mod_lt _ hbib)
    rw [States.mask, field_set_get (Nat.lt_of_le_sub_one (Nat.two_pow_pos _) hv) hfield]
    have hiff : (j % v.st.bib = bit % v.st.bib) ↔ j = bit :=
      ⟨fun hm => by rw [← Nat.div_add_mod j v.st.bib, ← Nat.div_add_mod bit v.st.bib, hsame, hm], fun h => by rw [h]⟩
    simp only [hiff]
  · have hne : j ≠ bit := fun h => hsame (by rw [h])
    have hidx : D - 1 - bit / v.st.bib ≠ D - 1 - j / v.st.bib := by
      generalize bit / v.st.bib = q at h1 hsame; generalize j / v.st.bib = q' at h2 hsame; omega
    rw [List.getElem?_set_ne hidx, if_neg hne]

theorem setValue_wf (v : VecBuf) (hwf : v.WF) (bit value : Nat) : (v.setValue bit value).WF := by
  refine ⟨by simp [VecBuf.setValue, hwf.1], fun b hb' => ?_⟩
  rcases List.mem_or_eq_of_mem_set hb' with h | h
  · exact hwf.2 b h
  · rw [h]; exact Nat.mod_lt _ (by decide)

/-- all bit records of a time step, in the order the file lists them -/
def writeAll (v : VecBuf) (ws : List (Nat × Nat)) : VecBuf := ws.foldl (fun v w => v.setValue w.1 w.2) v

/-- the value the records of a time step assign to position `j`: the last record for `j`, if any -/
def lastWrite (ws : List (Nat × Nat)) (j : Nat) : Option Nat := (ws.reverse.find? (fun w => w.1 == j)).map (·.2)

theorem lastWrite_cons (w : Nat × Nat) (ws : List (Nat × Nat)) (j d : Nat) :
    (lastWrite (w :: ws) j).getD d = (lastWrite ws j).getD (if j = w.1 then w.2 else d) := by
  simp only [lastWrite, List.reverse_cons, List.find?_append]
  cases ws.reverse.find? (fun x => x.1 == j) with
  | some y => rfl
  | none =>
    by_cases hjw : j = w.1
    · simp [hjw]
    · simp [hjw, Ne.symm hjw]

/-- **a vector is assembled from its per-bit records**: after any sequence of bit records (any order, repetitions allowed),
every position of the assembled value holds the last value recorded for it, and the positions without a record keep
their previous symbol -/
theorem C11_vector_assembled (ws : List (Nat × Nat)) : ∀ (v : VecBuf), v.WF →
    (∀ w ∈ ws, w.1 < v.bits ∧ w.2 ≤ v.st.mask) → ∀ j, j < v.bits →
    symAt v.st (writeAll v ws).data j = (lastWrite ws j).getD (symAt v.st v.data j) := by
  induction ws with
  | nil => intro v _ _ j _; rfl
  | cons w ws ih =>
    intro v hwf hws j hj
    obtain ⟨hb, hv⟩ := hws w (List.mem_cons_self ..)
    -- `setValue` replaces `data` only: `bits` and `st` of the new buffer are those of `v` by definition
    have hrec := ih (v.setValue w.1 w.2) (setValue_wf v hwf w.1 w.2) (fun x hx => hws x (List.mem_cons_of_mem _ hx)) j hj
    rw [lastWrite_cons, ← C11_set_get v hwf w.1 j w.2 hb hj hv]
    exact hrec

/-- the lookup table of the code maps GHDL's literal position (U X 0 1 Z W L H -) to the symbol that renders as that literal -/
theorem C11_lut : ∀ g : Fin 9, stdLut[g.val]? = GhwSpec.nineSym g.val := by decide +kernel

/-- the 8 big-endian bytes `read_signal_value` hands to the encoder end in the 4 bytes of the two's complement of the value -/
theorem C11_int32 (v : Int) (k : Nat) (hk : k < 4) :
    ((v % 2 ^ 64).toNat >>> (8 * k)) % 256 = ((v % 2 ^ 32).toNat >>> (8 * k)) % 256 := by
  have h64 : 0 ≤ v % 2 ^ 64 := Int.emod_nonneg _ (by decide)
  have e : (v % 2 ^ 32).toNat = (v % 2 ^ 64).toNat % 2 ^ 32 := by
    rw [← Int.emod_emod_of_dvd v (show (2 ^ 32 : Int) ∣ 2 ^ 64 by decide), Int.toNat_emod h64 (by decide)]
    rfl
  rw [e]
  exact (shiftRight_mod_of_mod _ 32 (8 * k) 8 (by omega)).symm

/-- `get_enum_bits`: the smallest width that holds every literal index -/
theorem C11_enum_bits (n : Nat) (hn : 1 ≤ n) :
    enumBits n = GhwSpec.bitsFor n ∧ n ≤ 2 ^ enumBits n ∧ (0 < enumBits n → 2 ^ (enumBits n - 1) < n) := by
  unfold enumBits GhwSpec.bitsFor
  by_cases h1 : n = 1
  · subst h1; simp
  · have hn0 : n ≠ 0 := by omega
    have hle : ¬ n ≤ 1 := by omega
    simp only [hn0, ↓reduceIte, h1, hle, true_and]
    have hm : n - 1 ≠ 0 := by omega
    have a := Nat.lt_log2_self (n := n - 1)
    have b := Nat.log2_self_le hm
    constructor
    · omega
    · intro _
      rw [Nat.add_sub_cancel]
      omega

theorem C11_labels_model_eq_spec (d : Dir) (l r : Int) :
    (IntRange.elems ⟨d, l, r⟩) = GhwSpec.elemLabels (d == .downto) l r := by
  cases d <;> simp [IntRange.elems, IntRange.len, GhwSpec.elemLabels, GhwSpec.vecLen]

/-- the `k`-th element in declaration order is `left + k` (to) / `left - k` (downto) -/
theorem C11_labels (downto : Bool) (l r : Int) (k : Nat) (hk : k < (GhwSpec.vecLen downto l r).toNat) :
    (GhwSpec.elemLabels downto l r)[k]? = some (if downto then l - k else l + k) := by
  simp [GhwSpec.elemLabels, hk]

/-- **changes of successive delta cycles of one simulation time are recorded under the same time index**: a step at the
current time leaves the time table as it is (so its entries carry the index of the previous step), a later time
appends exactly one entry -/
theorem C11_delta_cycle (leaves : List GhwSpec.Leaf) (s s' : GhwSpec.WSt) (t : Nat) (r : List Nat)
    (ch : List (Nat × GhwSpec.AVal)) (hs : s.ttRev = t :: r) (h : GhwSpec.stepW leaves s t ch = some s') :
    s'.ttRev = t :: r := by
  unfold GhwSpec.stepW at h
  simp only [hs, Nat.lt_irrefl, ↓reduceIte] at h
  split at h
  · cases h
  · rename_i ch' hgo
    cases h; rfl

theorem C11_new_time (leaves : List GhwSpec.Leaf) (s s' : GhwSpec.WSt) (t u : Nat) (r : List Nat)
    (ch : List (Nat × GhwSpec.AVal)) (hs : s.ttRev = t :: r) (hu : t < u) (h : GhwSpec.stepW leaves s u ch = some s') :
    s'.ttRev = u :: t :: r := by
  unfold GhwSpec.stepW at h
  simp only [hs, hu, ↓reduceIte] at h
  split at h
  · cases h
  · cases h; rfl

example : (VecBuf.ofInfo { min := 0, max := 9, two := false, ref := 0 }).WF := by
  constructor
  · decide
  · intro b hb; simp [VecBuf.ofInfo] at hb; omega
example : ((VecBuf.ofInfo { min := 0, max := 2, two := false, ref := 0 }).setValue 2 5 |>.setValue 0 1).data = [5, 1] := by decide
example : GhwSpec.elemLabels true 1 0 = [1, 0] ∧ GhwSpec.elemLabels false 3 5 = [3, 4, 5] := by decide
example : lastWrite [(0, 1), (2, 5), (0, 3)] 0 = some 3 ∧ lastWrite [(0, 1), (2, 5)] 1 = none := by decide
example : enumBits 2 = 1 ∧ enumBits 3 = 2 ∧ enumBits 9 = 4 ∧ enumBits 1 = 0 := by decide

/-- the `k` bytes of `n`, most significant first -/
def bytesBE : Nat → Nat → List Nat
  | 0, _ => []
  | k + 1, n => bytesBE k (n / 256) ++ [n % 256]

theorem foldl_bytesBE (k n acc : Nat) :
    (bytesBE k n).foldl (fun a b => a * 256 + b) acc = acc * 256 ^ k + n % 256 ^ k := by
  induction k generalizing n acc with
  | zero => simp [bytesBE, Nat.mod_one]
  | succ k ih =>
    simp only [bytesBE, List.foldl_append, List.foldl_cons, List.foldl_nil, ih]
    have h1 : n % 256 ^ (k + 1) = (n / 256 % 256 ^ k) * 256 + n % 256 := by
      rw [Nat.pow_succ, Nat.mul_comm (256 ^ k) 256, Nat.mod_mul]; omega
    rw [h1, Nat.pow_succ]
    have : acc * (256 ^ k * 256) = acc * 256 ^ k * 256 := by rw [Nat.mul_assoc]
    omega

theorem bytesBE_length : ∀ (k n : Nat), (bytesBE k n).length = k := by
  intro k; induction k with
  | zero => intro n; rfl
  | succ k ih => intro n; simp [bytesBE, ih]

/-- **both byte orders are read alike**: the `k` bytes of `n` in big-endian order, read with the big-endian flag, and the same
bytes reversed (little-endian order), read without it, give `n` (for `n < 256^k`) — so a time, an integer or a length means the
same in a big-endian and a little-endian GHW file -/
theorem C11_endianness (k n : Nat) (h : n < 256 ^ k) :
    natOfBytes true (bytesBE k n) = n ∧ natOfBytes false (bytesBE k n).reverse = n := by
  have := foldl_bytesBE k n 0
  simp only [Nat.zero_mul, Nat.zero_add, Nat.mod_eq_of_lt h] at this
  exact ⟨by simp [natOfBytes, this], by simp [natOfBytes, this]⟩

/-- … in particular 64-bit times (femtoseconds) and two's-complement integers -/
theorem C11_i64_endianness (t : Nat) (h : t < 2 ^ 63) :
    i64Of true (bytesBE 8 t) = t ∧ i64Of false (bytesBE 8 t).reverse = t := by
  have hk : t < 256 ^ 8 := by
    have : (256 : Nat) ^ 8 = 2 ^ 64 := by decide
    rw [this]; omega
  obtain ⟨h1, h2⟩ := C11_endianness 8 t hk
  unfold i64Of
  simp only [h1, h2]
  have : ¬ t ≥ 2 ^ 63 := by omega
  simp [this]

example : natOfBytes true [0, 0, 1, 2] = 258 ∧ natOfBytes false [2, 1, 0, 0] = 258 := by decide

end Wellen.Ghw
