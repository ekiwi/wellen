import WellenModel.Model.Py
import WellenModel.Props.C05
/-!
# C18 — the Python binding reports what the Rust API reports

Model: `Model/Py.lean` (pywellen/src/lib.rs after the fixes F16 / F17) on top of the proved model of
`Signal::get_offset` (C05). Values are identified by their position in the Rust signal's change
list, so "the value of the latest change at or before …" is a statement about positions.
pyo3's conversions (BigUint → int, Option → None, str) are trusted and validated through CPython.
-/
namespace Wellen.Py
open Wellen.Offset

/-- `value_at_idx(i)` is `None` when the signal has no change at an index `≤ i` (the converse fails on a group of 65536
changes, whose `elements` field wraps to 0: finding F18 of C05) -/
theorem C18_valueAtIdx_none (a : Array Nat) (i : Nat) (hs : Sorted a) (h : ∀ j, j < a.size → i < a[j]!) :
    valueAtIdx a i = none := by
  have := (C05_none_iff a i hs).mpr h
  simp [valueAtIdx, this]

/-- otherwise it is the value of the LATEST change at or before index `i` (the last element of the
delta-cycle group), provided fewer than 65536 changes share one index (finding F18 of C05) -/
theorem C18_valueAtIdx_latest (a : Array Nat) (i : Nat) (hs : Sorted a)
    (hex : ∃ j, j < a.size ∧ a[j]! ≤ i)
    (hsmall : ∀ d n, GroupSpec a i d n → n < 65536) :
    ∃ p, valueAtIdx a i = some p ∧ p < a.size ∧ a[p]! ≤ i ∧ ∀ q, p < q → q < a.size → i < a[q]! := by
  obtain ⟨d, n, hd, hg⟩ := C05_group a i hs hex
  have hel := C05_elements_exact a i d n hg (hsmall d n hg)
  obtain ⟨m, rfl⟩ := Nat.exists_eq_succ_of_ne_zero (Nat.ne_of_gt hg.n_pos)
  refine ⟨d.start + m, ?_, hg.n_le, ?_, fun q hq1 hq2 => hg.after hs hq1 hq2⟩
  · simp [valueAtIdx, hd, hel]
  · rw [(hg.group (d.start + m) hg.n_le).mpr ⟨Nat.le_add_right .., Nat.lt_succ_self _⟩]; exact hg.le_needle

theorem takeWhile_lt_split (t : Nat) {tt : List Nat} (hs : tt.Pairwise (· < ·)) (k v : Nat) (hv : tt[k]? = some v) :
    (k < (tt.takeWhile (· < t)).length → v < t) ∧ ((tt.takeWhile (· < t)).length ≤ k → t ≤ v) ∧
    ((tt.takeWhile (· < t)).length < k → t < v) := by
  induction tt generalizing k with
  | nil => simp at hv
  | cons a r ih =>
    obtain ⟨ha, hr⟩ := List.pairwise_cons.mp hs
    by_cases hat : a < t
    · simp only [List.takeWhile_cons, hat, decide_true, ↓reduceIte, List.length_cons]
      cases k with
      | zero => cases hv; exact ⟨fun _ => hat, nofun, nofun⟩
      | succ k =>
        have := ih hr k (by simpa using hv)
        exact ⟨fun h => this.1 (Nat.lt_of_succ_lt_succ h), fun h => this.2.1 (Nat.le_of_succ_le_succ h),
          fun h => this.2.2 (Nat.lt_of_succ_lt_succ h)⟩
    · simp only [List.takeWhile_cons, hat, decide_false, Bool.false_eq_true, ↓reduceIte, List.length_nil]
      have hat' := Nat.not_lt.mp hat
      cases k with
      | zero => cases hv; exact ⟨nofun, fun _ => hat', nofun⟩
      | succ k =>
        have := Nat.lt_of_le_of_lt hat' (ha v (List.mem_of_getElem? (by simpa using hv)))
        exact ⟨nofun, fun _ => Nat.le_of_lt this, fun _ => this⟩

/-- `value_at_time(t)` looks up the index of the greatest time table entry `≤ t`: every entry
before the returned index is `≤ t`, every later entry is `> t`; `None` before the first entry -/
theorem C18_valueAtTime_index (tt : List Nat) (a : Array Nat) (t : Nat) (hs : tt.Pairwise (· < ·)) :
    (∃ i, valueAtTime tt a t = valueAtIdx a i ∧ (∃ v, tt[i]? = some v ∧ v ≤ t) ∧
        ∀ (k v : Nat), i < k → tt[k]? = some v → t < v) ∨
    (valueAtTime tt a t = none ∧ ∀ (k v : Nat), tt[k]? = some v → t < v) := by
  have hsp := takeWhile_lt_split t hs
  have hpl : (tt.takeWhile (· < t)).length ≤ tt.length := (List.takeWhile_sublist _).length_le
  simp only [valueAtTime, binSearch]
  generalize (tt.takeWhile (· < t)).length = p at hsp hpl ⊢
  by_cases hf : tt[p]? = some t
  · simp only [hf, ↓reduceIte]
    exact .inl ⟨_, rfl, ⟨t, hf, Nat.le_refl _⟩, fun k v hk hv => (hsp k v hv).2.2 hk⟩
  · simp only [hf, ↓reduceIte]
    -- `Err(p)`: the entry at `p`, if any, is not `t`, so everything from `p` on is above `t`
    have hab : ∀ k v, p ≤ k → tt[k]? = some v → t < v := by
      intro k v hk hv
      rcases Nat.eq_or_lt_of_le hk with rfl | h
      · exact Nat.lt_of_le_of_ne ((hsp p v hv).2.1 hk) fun e => hf (e ▸ hv)
      · exact (hsp k v hv).2.2 h
    cases p with
    | zero => exact .inr ⟨rfl, fun k v hv => hab k v (Nat.zero_le k) hv⟩
    | succ p =>
      have hp := List.getElem?_eq_getElem hpl
      exact .inl ⟨p, rfl, ⟨tt[p], hp, Nat.le_of_lt ((hsp p _ hp).1 (Nat.lt_succ_self p))⟩, fun k v hk hv => hab k v hk hv⟩

/-- `TimeTable.__getitem__` follows Python's conventions, including negative indices -/
theorem C18_py_index (tt : List Nat) (k : Nat) (hk : k < tt.length) :
    ttGetItem tt (k : Int) = tt[k]? ∧ ttGetItem tt (-(k : Int) - 1) = tt[tt.length - 1 - k]? := by
  have e : -(k : Int) - 1 + tt.length = ((tt.length - 1 - k : Nat) : Int) := by omega
  constructor
  · rw [ttGetItem, if_neg (Int.not_lt.mpr (Int.natCast_nonneg k)), Int.toNat_natCast]
  · rw [ttGetItem, if_pos (by omega), e, if_neg (Int.not_lt.mpr (Int.natCast_nonneg _)), Int.toNat_natCast]

/-- non-vacuity: a time strictly between two table entries is answered from the earlier step;
before the first entry there is no value -/
example : binSearch [10, 20] 15 = .inr 1 ∧ binSearch [10, 20] 20 = .inl 1 ∧ binSearch [10, 20] 5 = .inr 0 := by decide
example : specValueAtTime [10, 20] [0, 0, 0, 1] 15 = some 2 ∧ specValueAtTime [10, 20] [0, 0, 0, 1] 5 = none := by decide
example : ttGetItem [10, 20, 30] (-1) = some 30 ∧ ttGetItem [10, 20, 30] (-4) = none := by decide

end Wellen.Py
