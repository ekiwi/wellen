import WellenModel.Proofs.Mt
import WellenModel.Props.C04
import WellenModel.Props.C01
/-!
# C03 — multi-threaded VCD loading equals single-threaded loading

In the model the schedule quantifier disappears: each chunk is parsed by a pure function of the
immutable input (`readStream`), the results are collected in chunk order (rayon's ordered `collect`,
trusted) and appended sequentially. Besides what the theorems below say of themselves:
* `C03_chunks`: the chunk arithmetic yields at least one chunk, chunks start at multiples of the chunk
  size beginning with 0, and together they cover the body;
* `C03_chunk_events_prefix`: a chunk (stop position set) emits a prefix of the events the unbounded
  parser emits from the same start — the hand-over exit only ever cuts the stream at a timestamp;
What is NOT proved is the purely lexical last step of `mt = st` for hand-over-safe bodies — that those per-chunk
operations are the operations of the whole body; it is checked differentially against the Lean model of the chunked
parser on every boundary alignment (see evidence). For bodies that are not hand-over safe the property is false for
the current code (known finding FMT).
-/
namespace Wellen.VcdBody
open Wellen.Bits Wellen.Store Wellen.Spec

theorem C03_chunks (bodyLen threads minChunk : Nat) :
    let cs := determineChunks bodyLen threads minChunk
    cs ≠ [] ∧ (∀ i, (h : i < cs.length) → cs[i] = (i * (cs[i]).2, (cs[i]).2)) ∧
    bodyLen ≤ cs.length * (divCeil bodyLen cs.length) := by
  simp only [determineChunks]
  refine ⟨?_, ?_, ?_⟩
  · intro h
    have h2 := congrArg List.length h
    simp at h2
  · intro i h
    simp
  · simp only [List.length_map, List.length_range]
    rw [Nat.mul_comm]
    exact (divCeil_window bodyLen _ (by omega)).1

theorem C03_chunk_events_prefix (s : Nat) (bs : List Nat) (nl : Bool) :
    evsOf (parseBody (some s) bs nl) <+: evsOf (parseBody none bs nl) :=
  run_stop_prefix s bs (initM nl)

/-- **a worker reproduces a segment of the whole parse**: let the parser of the whole body (no stop position) stand, after
the events `E`, at the beginning of a line in the state `lift E k c` — `c` being the state of a worker that has just
resynchronised at that line (same lexical state, no events yet, its own position count). Then the worker's events are a
prefix of the events the whole parser emits from there on: a worker never invents, reorders or alters an event, it only
stops early (at its hand-over timestamp) -/
theorem C03_worker_reproduces_segment (E : List Ev) (k s : Nat) (c : M) (rest : List Nat) :
    ∃ more, evsOf (run none (lift E k c) rest) = E.reverse ++ evsOf (run (some s) c rest) ++ more := by
  obtain ⟨more, hm⟩ := run_stop_prefix s rest c
  exact ⟨more, by rw [run_lift, evsOf_liftOut, ← hm, List.append_assoc]⟩

/-- appending concatenates the time tables of two finished encoders -/
theorem C03_append_table (c : Codec) (a b e : Enc) (ha : Inv a) (hb : Inv b)
    (h : append c a b = some e) : (finish c e).2 = (finish c a).2 ++ (finish c b).2 :=
  append_table h

example : determineChunks 100 4 16 = [(0, 25), (25, 25), (50, 25), (75, 25)] := by decide +kernel

/-- a multi-threaded load that succeeds is the store run (`Spec.runSegs`: one encoder per chunk, appended in order) on the
per-chunk operations -/
theorem C03_mt_load_is_store_run (c : Codec) (d : Decls) (rm : RealMap) (body : List Nat) (threads minChunk : Nat) (enc : Enc)
    (h : readValues c d rm body (.multi threads minChunk) = .ok enc) :
    ∃ seg0 rest, (determineChunks body.length threads minChunk).mapM (chunkOps d rm body) = some (seg0 :: rest) ∧
      Spec.runSegs c d.sigTypes (seg0 ++ joinSegs rest) = some enc := by
  obtain ⟨seg0, rest, hmap, _, hrun⟩ := mt_load_is_store_run h
  exact ⟨seg0, rest, hmap, hrun⟩

/-- … hence every signal it loads is what the abstract specification denotes for operations the store run turns into this
encoder (any signal type; the proof takes the per-chunk operations of `C03_mt_load_is_store_run`, the statement leaves `ops` open) -/
theorem C03_mt_loaded_signal (c : Codec) (d : Decls) (rm : RealMap) (body : List Nat) (threads minChunk : Nat) (enc : Enc)
    (h : readValues c d rm body (.multi threads minChunk) = .ok enc)
    (i : Nat) (hbm : 1 ≤ c.blockMax) (hbmax : c.blockMax ≤ 2 ^ 28) (tpe : SigType) (hw : ∀ b, tpe = .bitvec b → 1 ≤ b)
    (hti : d.sigTypes[i]? = some tpe)
    (hsmall : ∀ b ∈ (finish c enc).1.blocks, b.data.length < 2 ^ 36) :
    ∃ ops, Spec.runSegs c d.sigTypes ops = some enc ∧
      ((∀ op ∈ ops, ∀ j v r, op = .vcd j v (some r) → r.length = 8) →
       ∀ tt sigs, Spec.run d.sigTypes ops = some (tt, sigs) →
        ∃ sigS chg, sigs[i]? = some chg ∧
          loadSignal (finish c enc).1 i tpe =
            some { maxStates := sigS, times := chg.map (·.1),
                   entries := chg.map (fun x => (kindFor tpe hw).entry sigS (encVK (kindFor tpe hw) x)) }) := by
  obtain ⟨seg0, rest, _, _, hrun⟩ := mt_load_is_store_run h
  refine ⟨seg0 ++ joinSegs rest, hrun, ?_⟩
  intro hreal tt sigs hspec
  obtain ⟨sigS, chg, h1, h2, _⟩ := C04_store_refines_spec_all c i hbm hbmax d.sigTypes tpe hw hti _ hreal enc hrun tt sigs hspec hsmall
  exact ⟨sigS, chg, h1, h2⟩

/-- **division among parser threads is transparent** (specification level): whatever a history with `split` marks — one
encoder per chunk, appended — denotes, the same operations recorded by ONE thread (the marks removed) denote as well: the
same time table and the same change list for every signal -/
theorem C03_split_transparent (tps : List SigType) (ops : List Spec.Op) (r : List Nat × List (List (Nat × Spec.Value)))
    (h : Spec.run tps ops = some r) : Spec.run tps (Spec.dropSplits ops) = some r :=
  Spec.run_dropSplits tps ops r h

/-- … so a multi-threaded load that succeeds yields, for every signal, exactly what the specification denotes for the
CONCATENATION of the per-chunk operations read as one single-threaded recording (`dropSplits`): the store-level half of
`mt = st`. What remains differential is only that the per-chunk operations are the operations of the whole body (the
lexical hand-over, FMT). -/
theorem C03_mt_loaded_signal_single (c : Codec) (d : Decls) (rm : RealMap) (body : List Nat) (threads minChunk : Nat) (enc : Enc)
    (h : readValues c d rm body (.multi threads minChunk) = .ok enc)
    (i : Nat) (hbm : 1 ≤ c.blockMax) (hbmax : c.blockMax ≤ 2 ^ 28) (tpe : SigType) (hw : ∀ b, tpe = .bitvec b → 1 ≤ b)
    (hti : d.sigTypes[i]? = some tpe)
    (hsmall : ∀ b ∈ (finish c enc).1.blocks, b.data.length < 2 ^ 36) :
    ∃ ops, Spec.runSegs c d.sigTypes ops = some enc ∧
      ((∀ op ∈ ops, ∀ j v r, op = .vcd j v (some r) → r.length = 8) →
       ∀ tt sigs, Spec.run d.sigTypes ops = some (tt, sigs) →
        Spec.run d.sigTypes (Spec.dropSplits ops) = some (tt, sigs) ∧
        ∃ sigS chg, sigs[i]? = some chg ∧
          loadSignal (finish c enc).1 i tpe =
            some { maxStates := sigS, times := chg.map (·.1),
                   entries := chg.map (fun x => (kindFor tpe hw).entry sigS (encVK (kindFor tpe hw) x)) }) := by
  obtain ⟨ops, h1, h2⟩ := C03_mt_loaded_signal c d rm body threads minChunk enc h i hbm hbmax tpe hw hti hsmall
  refine ⟨ops, h1, ?_⟩
  intro hreal tt sigs hspec
  exact ⟨C03_split_transparent _ _ _ hspec, h2 hreal tt sigs hspec⟩

/-- non-vacuity: two chunks, the second opening a new maximum -/
example : Spec.run [.bitvec 1] [.time 0, .vcd 0 [49] none, .split, .time 5, .vcd 0 [48] none] =
    Spec.run [.bitvec 1] (Spec.dropSplits [.time 0, .vcd 0 [49] none, .split, .time 5, .vcd 0 [48] none]) ∧
    (Spec.run [.bitvec 1] [.time 0, .vcd 0 [49] none, .split, .time 5, .vcd 0 [48] none]).isSome = true := by decide +kernel

/-- the lexical hand-over assumption: the operations the chunks record, one after the other, are the operations the
single-threaded parser records for the whole body -/
def HandoverLexical (d : Decls) (rm : RealMap) (body : List Nat) (threads minChunk : Nat) : Prop :=
  ∀ segs evs ops, (determineChunks body.length threads minChunk).mapM (chunkOps d rm body) = some segs →
    tokenSpec body = .ok evs → opsOfEvs d rm (implicitZero evs) = some ops → segs.flatten = ops

/-- **`mt = st`, store level**: if both loads succeed, the lexical hand-over is clean (`HandoverLexical`: the per-chunk
operations are the whole body's operations) and the chunked history is well-formed (every later chunk opens a new
maximum: `Spec.run` denotes it), then both loads report, for every signal, the same change list — the one the
specification denotes (the time tables: `C03_mt_time_table`, `C01_time_table`). Everything below the token level is proved:
encoders, blocks, roll-over, `Encoder::append`, de-duplication, loading. -/
theorem C03_mt_eq_st_given_handover (c : Codec) (d : Decls) (rm : RealMap) (body : List Nat) (threads minChunk : Nat)
    (encM encS : Enc)
    (hM : readValues c d rm body (.multi threads minChunk) = .ok encM)
    (hS : readValues c d rm body .single = .ok encS)
    (hlex : HandoverLexical d rm body threads minChunk)
    (i : Nat) (hbm : 1 ≤ c.blockMax) (hbmax : c.blockMax ≤ 2 ^ 28) (tpe : SigType) (hw : ∀ b, tpe = .bitvec b → 1 ≤ b)
    (hti : d.sigTypes[i]? = some tpe)
    (hsmallM : ∀ b ∈ (finish c encM).1.blocks, b.data.length < 2 ^ 36)
    (hsmallS : ∀ b ∈ (finish c encS).1.blocks, b.data.length < 2 ^ 36) :
    ∃ opsM, Spec.runSegs c d.sigTypes opsM = some encM ∧
      ((∀ op ∈ opsM, ∀ j v r, op = .vcd j v (some r) → r.length = 8) →
       ∀ tt sigs, Spec.run d.sigTypes opsM = some (tt, sigs) →
        ∃ chg sM sS, sigs[i]? = some chg ∧
          loadSignal (finish c encM).1 i tpe =
            some { maxStates := sM, times := chg.map (·.1),
                   entries := chg.map (fun x => (kindFor tpe hw).entry sM (encVK (kindFor tpe hw) x)) } ∧
          loadSignal (finish c encS).1 i tpe =
            some { maxStates := sS, times := chg.map (·.1),
                   entries := chg.map (fun x => (kindFor tpe hw).entry sS (encVK (kindFor tpe hw) x)) }) := by
  obtain ⟨seg0, rest, hmap, hns, hrunM⟩ := mt_load_is_store_run hM
  obtain ⟨evs, opsS, htok, hops, hrunS⟩ := C01_load_is_store_run c d rm body encS hS
  have hdrop : dropSplits (seg0 ++ joinSegs rest) = opsS := by
    rw [dropSplits_eq_flatten, splitOps_joinSegs hns]
    exact hlex _ evs opsS hmap htok hops
  refine ⟨seg0 ++ joinSegs rest, hrunM, ?_⟩
  intro hreal tt sigs hden
  have hdenS : Spec.run d.sigTypes opsS = some (tt, sigs) := by
    rw [← hdrop]; exact C03_split_transparent _ _ _ hden
  have hrealS : ∀ op ∈ opsS, ∀ j v r, op = .vcd j v (some r) → r.length = 8 := by
    intro op hop
    rw [← hdrop] at hop
    exact hreal op (List.mem_filter.mp hop).1
  obtain ⟨sM, chgM, h1, h2, _⟩ := C04_store_refines_spec_all c i hbm hbmax d.sigTypes tpe hw hti _ hreal encM hrunM tt sigs hden hsmallM
  obtain ⟨sS, chgS, g1, g2, _⟩ := C04_store_refines_spec_all c i hbm hbmax d.sigTypes tpe hw hti _ hrealS encS
    (C04_runSegs_single c d.sigTypes opsS encS hrunS) tt sigs hdenS hsmallS
  rw [h1] at g1
  cases g1
  exact ⟨chgM, sM, sS, h1, h2, g2⟩

/-- **the time table of a recording made by several encoders** (a multi-threaded load): whenever the specification denotes
`(tt, sigs)` for the divided history, the appended encoders' time table is exactly `tt` — the timestamps greater than all
earlier ones, each once, whatever the division and the block size -/
theorem C03_segs_time_table (c : Codec) (tps : List SigType) (seg0 : List Op) (rest : List (List Op))
    (h0 : NoSplit seg0) (hr : ∀ sg ∈ rest, NoSplit sg) (e : Enc)
    (he : Spec.runSegs c tps (seg0 ++ joinSegs rest) = some e)
    (tt : List Nat) (sigs : List (List (Nat × Spec.Value))) (hrun : Spec.run tps (seg0 ++ joinSegs rest) = some (tt, sigs)) :
    (finish c e).2 = tt := by
  obtain ⟨e0, er, hm, he⟩ := (runSegs_joinSegs (List.forall_mem_cons.mpr ⟨h0, hr⟩)).mp he
  obtain ⟨s, hs, rfl, -⟩ := run_fold hrun
  rw [foldSpec_append] at hs
  obtain ⟨s1, h1, hs⟩ := Option.bind_eq_some_iff.mp hs
  rw [appendAll_table he, finish_tables_of_runs hm, List.flatMap_cons]
  exact (spec_table_joinSegs (spec_table (pre := []) h1 rfl) hr hs).symm

/-- **a multi-threaded load reports the specification's time table** (C02 for this loading mode): if the load succeeds and the
specification denotes `(tt, sigs)` for the per-chunk operations, the loaded time table is `tt` -/
theorem C03_mt_time_table (c : Codec) (d : Decls) (rm : RealMap) (body : List Nat) (threads minChunk : Nat) (enc : Enc)
    (h : readValues c d rm body (.multi threads minChunk) = .ok enc) :
    ∃ ops, Spec.runSegs c d.sigTypes ops = some enc ∧
      ∀ tt sigs, Spec.run d.sigTypes ops = some (tt, sigs) → (finish c enc).2 = tt ∧ tt.Pairwise (· < ·) := by
  obtain ⟨seg0, rest, _, hns, hrun⟩ := mt_load_is_store_run h
  refine ⟨seg0 ++ joinSegs rest, hrun, ?_⟩
  intro tt sigs hden
  obtain ⟨h0, hr⟩ := List.forall_mem_cons.mp hns
  have htt := C03_segs_time_table c d.sigTypes seg0 rest h0 hr enc hrun tt sigs hden
  exact ⟨htt, run_table hden ▸ spm_pairwise _⟩

/-- a body that is not divided (`determineChunks_single`: one worker, or not longer than the minimal chunk size) has nothing to hand
over: the lexical hand-over assumption holds -/
theorem C03_handover_lexical_undivided (d : Decls) (rm : RealMap) (body : List Nat) (threads minChunk : Nat)
    (h : threads ≤ 1 ∨ body.length ≤ minChunk) : HandoverLexical d rm body threads minChunk := by
  intro segs evs ops hmap htok hops
  rw [determineChunks_single h] at hmap
  obtain ⟨o, r, hc, hr, rfl⟩ := mapM_cons_eq_some.mp hmap
  cases hr
  -- the only chunk is the whole body, parsed with a stop position at its end
  have : chunkOps d rm body (0, body.length) = some ops := by
    rw [chunkOps, List.drop_zero, C14_stop_irrelevant body (body.length - 1) false (by omega), C01_lexing, htok]
    exact hops
  rw [this] at hc
  cases hc
  exact List.append_nil _

/-- **`mt = st` for every body that is not divided** (one worker thread, or a body not longer than the minimal chunk size —
8 KiB in production): if both loads succeed, they report the same change list for every signal; the hand-over assumption is
discharged (`C03_handover_lexical_undivided`) -/
theorem C03_mt_eq_st_undivided (c : Codec) (d : Decls) (rm : RealMap) (body : List Nat) (threads minChunk : Nat)
    (hund : threads ≤ 1 ∨ body.length ≤ minChunk) (encM encS : Enc)
    (hM : readValues c d rm body (.multi threads minChunk) = .ok encM)
    (hS : readValues c d rm body .single = .ok encS)
    (i : Nat) (hbm : 1 ≤ c.blockMax) (hbmax : c.blockMax ≤ 2 ^ 28) (tpe : SigType) (hw : ∀ b, tpe = .bitvec b → 1 ≤ b)
    (hti : d.sigTypes[i]? = some tpe)
    (hsmallM : ∀ b ∈ (finish c encM).1.blocks, b.data.length < 2 ^ 36)
    (hsmallS : ∀ b ∈ (finish c encS).1.blocks, b.data.length < 2 ^ 36) :
    ∃ opsM, Spec.runSegs c d.sigTypes opsM = some encM ∧
      ((∀ op ∈ opsM, ∀ j v r, op = .vcd j v (some r) → r.length = 8) →
       ∀ tt sigs, Spec.run d.sigTypes opsM = some (tt, sigs) →
        ∃ chg sM sS, sigs[i]? = some chg ∧
          loadSignal (finish c encM).1 i tpe =
            some { maxStates := sM, times := chg.map (·.1),
                   entries := chg.map (fun x => (kindFor tpe hw).entry sM (encVK (kindFor tpe hw) x)) } ∧
          loadSignal (finish c encS).1 i tpe =
            some { maxStates := sS, times := chg.map (·.1),
                   entries := chg.map (fun x => (kindFor tpe hw).entry sS (encVK (kindFor tpe hw) x)) }) :=
  C03_mt_eq_st_given_handover c d rm body threads minChunk encM encS hM hS
    (C03_handover_lexical_undivided d rm body threads minChunk hund) i hbm hbmax tpe hw hti hsmallM hsmallS

end Wellen.VcdBody
