import WellenModel.Proofs.VcdStop
import WellenModel.Proofs.Truncation
import WellenModel.Props.C01
/-!
# C15 — a truncated VCD loads as a prefix of the complete one

Proved about the body parser (every byte string, every cut position):
* `C15_prefix_events`: the events produced from a prefix are — up to at most one last event, made
  from the token that was cut — a prefix of the events of the whole input;
* `C15_boundary_exact`: when the cut falls after a complete line (no pending token, no vector
  value waiting for its id) the prefix's events are exactly a prefix, and the parse succeeds;
* `C15_time_table_prefix`: when the truncated and the complete body both load, the truncated time
  table without its last entry is a prefix of the complete one (store level: through
  `VcdEncoder`, `Encoder::time_change`, `finish`);
* `C15_waveform_agrees_partial`: the abstract waveforms (C02/C04 specification) of the truncated
  and of the complete body both extend one waveform `sc`: same initial time table, each change
  list an initial part, equal changes strictly before the last time step of `sc`. That `sc` is the
  waveform of their common events is said by `truncated_waveform`, not by this statement (`∃ sc`).
  PARTIAL: the property speaks of the changes before the *truncated file's* last time; when
  the cut token is itself a timestamp that opens a new step (`#12` of `#123`), the changes AT the
  last common step are covered only through the fact that the completed token is again a
  timestamp (`#123` ≥ `#12`), which is not proved here (the differential run checks it on every
  cut position of every generated file);
* the parser is a total function (structural recursion): it cannot hang.
NOT provable, because false for the current code (finding F7): "never panics" — a value token that
is cut before / inside its identifier code or inside a real number reaches `unwrap`s in
`VcdEncoder::value` / `add_vcd_change`. The model reproduces those panics; the differential run
checks that the implementation panics exactly where the model says and nowhere else.
-/
namespace Wellen.VcdBody

theorem C15_prefix_events (stop : Option Nat) (bs1 bs2 : List Nat) (nl : Bool) :
    ∃ c, c <+: evsOf (parseBody stop (bs1 ++ bs2) nl) ∧
      (evsOf (parseBody stop bs1 nl) = c ∨ ∃ x, evsOf (parseBody stop bs1 nl) = c ++ [x]) := by
  unfold parseBody
  rw [run_append, run_eq_flush stop bs1]
  cases runM stop (initM nl) bs1 with
  | cont m' => exact ⟨m'.evs.reverse, run_evs_prefix stop bs2 m', flush_evs m'⟩
  | exit e => exact ⟨e, List.prefix_refl _, .inl rfl⟩
  | error e => exact ⟨e, List.prefix_refl _, .inl rfl⟩

theorem C15_boundary_exact (stop : Option Nat) (bs1 bs2 : List Nat) (nl : Bool) (m' : M)
    (hm : runM stop (initM nl) bs1 = .cont m') (hb : m'.first = []) (hst : m'.st ≠ .idTok) :
    evsOf (parseBody stop bs1 nl) <+: evsOf (parseBody stop (bs1 ++ bs2) nl) ∧
    parseBody stop bs1 nl = .ok m'.evs.reverse := by
  unfold parseBody
  have hf : flush m' = .ok m'.evs.reverse := by
    unfold flush
    cases h : m'.st with
    | idTok => exact absurd h hst
    | first => simp [hb]
    | skipNl => rfl
    | lookEnd => rfl
  rw [run_append, run_eq_flush stop bs1, hm]
  simp only [hf]
  exact ⟨run_evs_prefix stop bs2 m', trivial⟩

/-- store level: the time table of a truncated file, without its last entry, is a prefix of the complete file's -/
theorem C15_time_table_prefix (c : Store.Codec) (d : Decls) (rm : RealMap) (bs1 bs2 : List Nat) (enc1 enc2 : Store.Enc)
    (h1 : readValues c d rm bs1 .single = .ok enc1) (h2 : readValues c d rm (bs1 ++ bs2) .single = .ok enc2) :
    ((Store.finish c enc1).2).dropLast <+: (Store.finish c enc2).2 := by
  obtain ⟨evs1, hp1, ht1⟩ := C01_time_table c d rm bs1 enc1 h1
  obtain ⟨evs2, hp2, ht2⟩ := C01_time_table c d rm (bs1 ++ bs2) enc2 h2
  obtain ⟨pre, ⟨r, hr⟩, hx⟩ := C15_prefix_events none bs1 bs2 false
  rw [C01_lexing, hp1] at hx
  rw [C01_lexing, hp2] at hr
  simp only [evsOf] at hx hr
  rw [ht1, ht2, ← hr]
  rcases hx with rfl | ⟨x, rfl⟩
  · exact (List.dropLast_prefix _).trans (eventTable_append_prefix evs1 r)
  · exact (eventTable_snoc_dropLast pre x).trans (eventTable_append_prefix pre r)

/-- abstract waveform: both the truncated and the complete body's waveform extend a waveform `sc` — that of the common events, by
`truncated_waveform`, which says so; this statement leaves `sc` open -/
theorem C15_waveform_agrees_partial (types : Array Store.SigType) (d : Decls) (rm : RealMap) (bs1 bs2 : List Nat) (nl : Bool)
    (ops1 ops2 : List Spec.Op)
    (h1 : opsOfEvs d rm (implicitZero (evsOf (parseBody none bs1 nl))) = some ops1)
    (h2 : opsOfEvs d rm (implicitZero (evsOf (parseBody none (bs1 ++ bs2) nl))) = some ops2)
    (s0 s1 s2 : Spec.St) (hw : s0.ttLen = s0.ttRev.length)
    (f1 : Spec.foldSpec types ops1 s0 = some s1) (f2 : Spec.foldSpec types ops2 s0 = some s2) :
    ∃ sc : Spec.St, sc.ttRev <:+ s1.ttRev ∧ sc.ttRev <:+ s2.ttRev ∧
      ∀ i, (∃ n1, s1.changesRev.getD i [] = n1 ++ sc.changesRev.getD i []) ∧
           (∃ n2, s2.changesRev.getD i [] = n2 ++ sc.changesRev.getD i []) ∧
           (s1.changesRev.getD i []).filter (fun p => p.1 < sc.ttLen - 1) =
             (s2.changesRev.getD i []).filter (fun p => p.1 < sc.ttLen - 1) := by
  obtain ⟨pre, ⟨r, hr⟩, hx⟩ := C15_prefix_events none bs1 bs2 nl
  obtain ⟨r1, hr1⟩ : ∃ r1, evsOf (parseBody none bs1 nl) = pre ++ r1 :=
    hx.elim (fun h => ⟨[], by rw [h, List.append_nil]⟩) fun ⟨x, h⟩ => ⟨[x], h⟩
  rw [← hr] at h2
  rw [hr1] at h1
  obtain ⟨_, sc, _, _, a, b, c⟩ := truncated_waveform h1 h2 hw f1 f2
  exact ⟨sc, a, b, c⟩

/-- non-vacuity: cutting `…\n#12|3\n1!` inside the timestamp yields the time 12 as the one extra event -/
example : evsOf (parseBody none [10, 35, 53, 10, 49, 33, 10, 35, 49, 50]) =
    [.time 5, .value [49] [33]] ++ [.time 12] := by decide +kernel
example : evsOf (parseBody none ([10, 35, 53, 10, 49, 33, 10, 35, 49, 50] ++ [51, 10])) =
    [.time 5, .value [49] [33], .time 123] := by decide +kernel

end Wellen.VcdBody
