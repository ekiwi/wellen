import WellenModel.Proofs.Detect
/-!
# C16 — format detection is total and correct

Model: `Model/Detect.lean` — `is_vcd`, `fst_reader::is_fst_file` (dependency, modelled from its
source, with explicit fuel), `is_ghw`, combined as `detect_file_format` does. The functions are pure
functions of the byte string, so "leaves the input positioned at its start" is structural in the
model; the real rewind is observed by the differential run with a position-tracking reader.
* totality: `isVcd`, `isGhw` are total functions (no panic after fix F8: `C16_unknown_command_rejected`);
* `C16_vcd_accepted`: white space, `$`, one of the nine command words, white space and a rest in which the matcher of
  `read_until_end_token` finds `$end` (`findEnd`; it does not look again at the byte that broke a partial match, so `$$end` is missed) is VCD;
* `C16_whitespace_unknown`: white-space-only data is classified Unknown;
* `C16_fst_walk_terminates_partial`: the FST block walk terminates within len+1 steps when every
  section length is in [8, 2^63) — in the form real files meet this is `isFstWalk_forward`; the statement here asks it at
  every position, also where fewer than eight length bytes are left (they read as 0), which only the empty input meets.
  NOT provable in general: finding F10 (`C16_fst_walk_hangs`), and
  the empty input is classified FST (finding F9, `C16_empty_is_fst`).
-/
namespace Wellen.Detect

theorem C16_unknown_command_rejected (ws tok rest : List Nat) (w : Nat) (hws : ∀ b ∈ ws, isWs b = true)
    (htok : ∀ b ∈ tok, isWs b = false) (hw : isWs w = true) (hcmd : cmdWords.contains tok = false) :
    isVcd (ws ++ 36 :: (tok ++ w :: rest)) = false := by
  rw [isVcd_cmd ws tok rest w hws htok hw, hcmd]; rfl

theorem C16_vcd_accepted (ws tok rest : List Nat) (w : Nat) (hws : ∀ b ∈ ws, isWs b = true)
    (htok : ∀ b ∈ tok, isWs b = false) (hw : isWs w = true) (hcmd : cmdWords.contains tok = true)
    (hend : findEnd (dropLeadingWs rest) 0 = true) :
    detect (ws ++ 36 :: (tok ++ w :: rest)) = .vcd := by
  have : isVcd (ws ++ 36 :: (tok ++ w :: rest)) = true := by
    rw [isVcd_cmd ws tok rest w hws htok hw, hcmd]; exact hend
  simp [detect, this]

/-- the bound `hb` on the bytes is not needed -/
theorem C16_whitespace_unknown (bs : List Nat) (hne : bs ≠ []) (h : ∀ b ∈ bs, isWs b = true) (hb : ∀ b ∈ bs, b < 256) :
    detect bs = .unknown :=
  detect_whitespace bs hne h

/-- `isFstWalk_forward` asks for a forward length only where the eight length bytes are there; `hfw` asks at every position -/
theorem C16_fst_walk_terminates_partial (bs : List Nat)
    (hfw : ∀ p, p < bs.length → u64be ((bs.drop (p + 1)).take 8) < 2 ^ 63 ∧ 8 ≤ u64be ((bs.drop (p + 1)).take 8)) :
    isFst bs ≠ .hang :=
  isFstWalk_forward bs (bs.length + 2) 0 (by omega) (by omega) fun p hp => hfw p (by omega)

/-- finding F10: an 18-byte input on which the walk never ends (block 2 seeks back onto block 1) -/
theorem C16_fst_walk_hangs :
    isFst [255, 0, 0, 0, 0, 0, 0, 0, 8, 255, 255, 255, 255, 255, 255, 255, 255, 246] = .hang := by decide

/-- finding F9: the empty input is classified as FST -/
theorem C16_empty_is_fst : detect [] = .fst := by decide

/-- non-vacuity of the acceptance theorem: ` $date x $end` -/
example : detect [32, 36, 100, 97, 116, 101, 32, 120, 32, 36, 101, 110, 100] = .vcd := by decide

end Wellen.Detect
