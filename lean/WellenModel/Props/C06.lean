import WellenModel.Proofs.Canon
import WellenModel.Proofs.SpecStep
import WellenModel.Proofs.Entry
/-!
# C06 — loaded signals are in canonical form

* the specification every loader is compared with (`Spec.run`, `Spec.canon`) yields lists without
  consecutive equal values, drops nothing but immediate repetitions, and reports the smallest kind;
* the loader's byte-wise de-duplication (`check_if_changed_and_truncate`, modelled by `Acc.push`)
  never leaves two equal consecutive entries, and two entries are byte-equal exactly when they hold
  the same symbols in the same kind (`C06_entry_injective`) — so it removes exactly the repetitions;
* the kind chosen when writing (`check_states`) is the smallest sufficient one, and a rendered value
  has exactly the declared width.
-/
namespace Wellen.Spec
open Wellen.Bits Wellen.Store

/-- no two consecutive changes carry the same value, for every signal of every history -/
theorem C06_no_repeat (types : List SigType) (ops : List Op) (tt : List Nat)
    (sigs : List (List (Nat × Value))) (h : run types ops = some (tt, sigs)) :
    ∀ l ∈ sigs, noAdjRepeat l := by
  obtain ⟨s, -, -, rfl⟩ := run_fold h
  intro l hl
  obtain ⟨a, -, rfl⟩ := List.mem_map.mp hl
  exact canon_noAdjRepeat _

/-- nothing but immediate repetitions is removed, nothing is added or reordered -/
theorem C06_only_repeats_dropped (l : List (Nat × Value)) :
    (canon l).Sublist l ∧ (noAdjRepeat l → canon l = l) :=
  ⟨canon_sublist l, canon_id l⟩

/-- Binary iff only 0/1; FourValue iff some x/z and nothing above; NineValue otherwise -/
theorem C06_kind_minimal (syms : List Nat) :
    (kindOf syms = .two ↔ ∀ v ∈ syms, v ≤ 1) ∧
    (kindOf syms = .four ↔ (∀ v ∈ syms, v ≤ 3) ∧ ∃ v ∈ syms, 2 ≤ v) :=
  ⟨kindOf_two syms, kindOf_four syms⟩

/-- the kind stored with a value when it is written is that smallest kind -/
theorem C06_write_kind_minimal (chars : List Nat) (st : States) (h : checkStates chars = some st) :
    ∃ nums, charsToNums chars = some nums ∧ st = kindOf nums :=
  checkStates_minimal chars st h

/-- every rendered bit-vector value has exactly the declared width -/
theorem C06_width (s : States) (d : List Nat) (bits : Nat) (hd : d.length = divCeil bits s.bib) :
    (toSyms s d bits).length = bits :=
  toSyms_length s d bits hd

/-- byte-equal entries hold the same symbols in the same kind (so the byte-wise comparison of
the loader drops a change exactly when the value is unchanged) -/
theorem C06_entry_injective (maxS l1 l2 : States) (s1 s2 : List Nat)
    (hlen : s1.length = s2.length) (hb : 2 ≤ s1.length)
    (hv1 : ∀ v ∈ s1, v < 2 ^ l1.bits) (hv2 : ∀ v ∈ s2, v < 2 ^ l2.bits)
    (hle1 : l1.toNat ≤ maxS.toNat) (hle2 : l2.toNat ≤ maxS.toNat)
    (he : alignEntry maxS l1 s1.length (writeNState l1 s1 none) =
          alignEntry maxS l2 s2.length (writeNState l2 s2 none)) : l1 = l2 ∧ s1 = s2 :=
  entry_injective hlen (List.ne_nil_of_length_pos (by omega)) hv1 hv2 hle1 hle2 he

/-- the loader never keeps two equal consecutive entries -/
def noAdjEq : List (List Nat) → Prop
  | [] => True
  | [_] => True
  | a :: b :: r => a ≠ b ∧ noAdjEq (b :: r)

theorem C06_push_no_repeat (a : Acc) (t : Nat) (entry : List Nat) (h : noAdjEq a.entriesRev) :
    noAdjEq (a.push t entry).entriesRev := by
  unfold Acc.push
  cases he : a.entriesRev with
  | nil => simp [noAdjEq]
  | cons p r =>
    rw [he] at h
    simp only
    split
    · rwa [he]
    · rename_i hp; exact ⟨fun e => hp e.symm, h⟩

example : canon [(0, .bits [1, 0]), (0, .bits [1, 0]), (1, .bits [1, 1]), (2, .bits [1, 1]), (3, .bits [1, 0])] =
    [(0, .bits [1, 0]), (1, .bits [1, 1]), (3, .bits [1, 0])] := by decide
example : kindOf [0, 1, 3] = .four ∧ kindOf [0, 1] = .two ∧ kindOf [0, 8] = .nine := by decide

end Wellen.Spec
