import WellenModel.Proofs.Write
import WellenModel.Proofs.RefineAll
import WellenModel.Proofs.SpecPrefix
/-!
# C04 — storage is transparent: packing, compression and segmentation never alter data

Model: `Model/Bits.lean`, `Model/Store.lean` (wavemem.rs, fst.rs 269-282, signals.rs 103-138, 568-620).
What is proved here, for all widths / kinds / values (no bounds):
* packing a symbol list and rendering it again is the identity (`C04_pack_unpack`);
* the in-memory entry built by the loader for one change decodes to the same symbols for every
  (widest kind of the signal, local kind of the value) combination, in both meta layouts
  (`C04_entry_roundtrip`, `C04_one_bit_roundtrip`), and the padding arithmetic never underflows;
* LEB128 numbers round-trip in front of any remaining stream (`C04_leb_roundtrip`);
* rendered characters are the lower-cased characters written, independent of the kind used for
  storage (`C04_char_faithful`, table-driven, regenerated from the code on every run).
Stream / block level: `C04_stream_*`, `C04_block_slice`, `C04_meta_*`, `C04_single_block_load*`, `C04_multi_block_load`.
END TO END (`C04_store_refines_spec`, `C04_store_refines_spec_all`): the whole store — encoder bookkeeping (time steps,
skipping, block roll-over), chunk streams, `finish`, offsets, meta words, the compression decision, the loader with its
alignment and de-duplication — is proved equal to the abstract specification `Spec.run` for every history and every block
size: first for VCD vector signals of two or more bits, then, through one generic simulation, for every signal type
(vectors, one-bit signals, reals, strings) and both write paths (VCD tokens and the pre-encoded GHW path), across any number
of blocks. The per-block statements (`C04_*_block_roundtrip`, `C04_single_block_load_*`) say what one block does on its own.
-/
namespace Wellen.Store
open Wellen.Bits

/-- packing then rendering is the identity: every state kind, every width, every symbol list -/
theorem C04_pack_unpack (s : States) (vals : List Nat) (hv : ∀ v ∈ vals, v < 2 ^ s.bits) :
    toSyms s (writeNState s vals none) vals.length = vals :=
  pack_unpack s vals hv

/-- a stored vector entry reads back as the symbols written, whatever the widest kind of the signal -/
theorem C04_entry_roundtrip (maxS loc : States) (syms : List Nat)
    (hbits : 2 ≤ syms.length) (hv : ∀ v ∈ syms, v < 2 ^ loc.bits) (hle : loc.toNat ≤ maxS.toNat) :
    ∃ d, decodeEntry maxS syms.length (getLenAndMeta maxS syms.length).2
           (alignEntry maxS loc syms.length (writeNState loc syms none)) = some (loc, d) ∧
         toSyms loc d syms.length = syms :=
  entry_roundtrip maxS loc syms (List.ne_nil_of_length_pos (by omega)) hv hle

/-- one-bit signals: value nibble and meta bits share one byte -/
theorem C04_one_bit_roundtrip (maxS : States) : ∀ v : Fin 9,
    (States.fromValue v.val).toNat ≤ maxS.toNat →
    (decodeEntry maxS 1 (getLenAndMeta maxS 1).2 (oneBitEntry v.val)).map (fun p => (p.1, toSyms p.1 p.2 1)) =
      some (States.fromValue v.val, [v.val]) := by
  cases maxS <;> decide +kernel

/-- the padding computation of the "smaller encoding" branch cannot underflow -/
theorem C04_align_no_underflow (maxS loc : States) (bits : Nat) (hle : loc.toNat ≤ maxS.toNat) (hb : 1 ≤ bits)
    (hdiff : ¬ ((getLenAndMeta loc bits).1 = (getLenAndMeta maxS bits).1 ∧
               (getLenAndMeta loc bits).2 = (getLenAndMeta maxS bits).2)) :
    if (getLenAndMeta maxS bits).2 then (getLenAndMeta loc bits).1 ≤ (getLenAndMeta maxS bits).1
    else (getLenAndMeta loc bits).1 + 1 ≤ (getLenAndMeta maxS bits).1 := by
  have hlen := getLenAndMeta_len_mono bits hle
  split
  · exact hlen
  · rename_i hm
    -- with equal lengths the layouts would differ in the meta byte only, but a signal without one leaves the value none
    exact Nat.lt_of_le_of_ne hlen fun he => hdiff ⟨he, by rw [getLenAndMeta_meta_false bits hle (by simpa using hm)]; simpa using hm⟩

/-- LEB128 round trip in front of any stream -/
theorem C04_leb_roundtrip (n : Nat) (rest : List Nat) : lebRead (lebWrite n ++ rest) = some (n, rest) :=
  lebRead_lebWrite n rest

/-- every accepted value character comes back as its lower-case self (table from the code) -/
theorem C04_char_faithful (c : Fin 256) (v : Nat) (h : bitCharToNum c.val = some v) :
    v < 9 ∧ Gen.lookup9[v]? = some (toLower c.val) :=
  bitChar_some c.val v h

/-- the character shown does not depend on the kind (2/4/9-state) a value is stored in -/
theorem C04_kind_independent_chars : Gen.lookup2 = Gen.lookup9.take 2 ∧ Gen.lookup4 = Gen.lookup9.take 4 := by
  decide

/-- multi-bit signals: any number of changes, any deltas / kinds; the loader reproduces every change at the running time index
(`replayFixed` = push the aligned entry of each change, immediate repetitions dropped) -/
theorem C04_stream_fixed (bits : Nat) (hb : bits ≠ 1) (sigS : States) (cs : List (Nat × States × List Nat))
    (h : ∀ c ∈ cs, c.2.2.length = divCeil bits c.2.1.bib ∧ ((c.1 <<< 2) ||| c.2.1.toNat) < 2 ^ 32)
    (fuel last : Nat) (a : Acc) (hf : cs.length < fuel) :
    loadFixed bits sigS fuel (encStream cs) last a = some (replayFixed bits sigS cs last a).2 :=
  loadFixed_stream bits hb sigS cs h fuel last a hf

theorem C04_stream_onebit (sigS : States) (cs : List (Nat × Nat))
    (h : ∀ c ∈ cs, c.2 < 16 ∧ ((c.1 <<< 4) + c.2) < 2 ^ 32) (fuel last : Nat) (a : Acc) (hf : cs.length < fuel) :
    loadFixed 1 sigS fuel (encOneBit cs) last a = some (replayOneBit cs last a).2 :=
  loadFixed_stream_onebit sigS cs h fuel last a hf

theorem C04_stream_reals (cs : List (Nat × List Nat)) (h : ∀ c ∈ cs, c.2.length = 8 ∧ c.1 < 2 ^ 32)
    (fuel last : Nat) (a : Acc) (hf : cs.length < fuel) :
    loadReals fuel (encReals cs) last a = some (replayPlain cs last a).2 :=
  loadReals_stream cs h fuel last a hf

theorem C04_stream_strings (cs : List (Nat × List Nat)) (h : ∀ c ∈ cs, c.1 < 2 ^ 32)
    (fuel last : Nat) (a : Acc) (hf : cs.length < fuel) :
    loadStrings fuel (encStrings cs) last a = some (replayPlain cs last a).2 :=
  loadStrings_stream cs h fuel last a hf

/-- block level: the offset table of `finish_block` lets `get_offset_and_length` cut every signal's bytes back out of the block,
for every number of signals and every mix of signals with and without data -/
theorem C04_block_slice (c : Codec) (signals : Array SigEnc) (i : Nat) (d : List Nat)
    (hd : (signals.toList.map fun s => (finishSignal c s).2)[i]? = some (some d)) :
    let r := finishSignals c signals
    let b : Block := { startTime := 0, timeTable := [], offsets := r.2.1, data := r.2.2 }
    ∃ off len, b.offsetAndLength i = some (off, len) ∧ (b.data.drop off).take len = d :=
  block_slice c signals i d hd

/-- the meta word in front of a payload: kind and (for compressed payloads) a length bound that is large enough -/
theorem C04_meta_plain (s : States) : metaDecode (metaEncode s none) = some (s, none) := meta_roundtrip_plain s

theorem C04_meta_compressed (s : States) (l : Nat) (hl : divCeil l 32 < 2 ^ 32) :
    metaDecode (metaEncode s (some l)) = some (s, some (divCeil l 32 * 32)) ∧ l ≤ divCeil l 32 * 32 :=
  meta_roundtrip_compressed s l hl

/-- **one block, end to end**: whatever else is stored in the block and whatever the compression decision, a multi-bit signal whose
recorded data is the chunk stream of the changes `cs` is loaded back as exactly those changes (time index = running sum of the
deltas, aligned entries, immediate repetitions dropped) -/
theorem C04_single_block_load (c : Codec) (signals : Array SigEnc) (i : Nat) (s : SigEnc) (bits : Nat) (tt : List Nat) (t0 : Nat)
    (cs : List (Nat × States × List Nat))
    (hs : signals.toList[i]? = some s) (hb : bits ≠ 1) (hdata : s.dataBytes = encStream cs) (hne : cs ≠ [])
    (hcs : ∀ c ∈ cs, c.2.2.length = divCeil bits c.2.1.bib ∧ ((c.1 <<< 2) ||| c.2.1.toNat) < 2 ^ 32)
    (hlen : divCeil (encStream cs).length 32 < 2 ^ 32) :
    let r := finishSignals c signals
    let b : Block := { startTime := t0, timeTable := tt, offsets := r.2.1, data := r.2.2 }
    loadSignal { blocks := [b] } i (.bitvec bits) =
      some { maxStates := s.maxStates,
             times := (replayFixed bits s.maxStates cs 0 {}).2.timesRev.reverse,
             entries := (replayFixed bits s.maxStates cs 0 {}).2.entriesRev.reverse } :=
  loadSignal_one c (.bitvec bits) tt t0 encChange_ne_nil hs hdata hne hlen
    fun fuel hf => loadFixed_stream bits hb s.maxStates cs hcs fuel 0 {} hf

/-- **the VCD vector path is transparent within a block**: a fresh multi-bit signal that receives any number of VCD value tokens
at non-decreasing time indices (below 2^30) is, after `finish_block` — whatever other signals share the block, whatever the
compression decision — loaded back as one entry per call at the call's time index, each the aligned packing of exactly `bits`
symbols of that call (immediate repetitions dropped). Composition of `addVcd_chunk` (what one call appends), `C04_block_slice`,
`C04_meta_*`, `C04_stream_fixed`; the symbols behind an entry are `C04_entry_roundtrip`. -/
theorem C04_vcd_block_roundtrip (c : Codec) (signals : Array SigEnc) (i : Nat) (s : SigEnc) (bits : Nat) (tt : List Nat) (t0 : Nat)
    (calls : List (Nat × List Nat)) (hb : bits ≠ 1) (hne : calls ≠ [])
    (hw : vcdWrites { tpe := .bitvec bits } calls = some s) (hs : signals.toList[i]? = some s)
    (hsorted : (calls.map (·.1)).Pairwise (· ≤ ·)) (hsmall : ∀ t ∈ calls.map (·.1), t < 2 ^ 30)
    (hlen : divCeil s.dataBytes.length 32 < 2 ^ 32) :
    ∃ cs : List (Nat × States × List Nat),
      (absolutise 0 cs).map (·.1) = calls.map (·.1) ∧
      (∀ x ∈ cs, ∃ nums, nums.length = bits ∧ (∀ v ∈ nums, v < 9) ∧ x.2.2 = writeNState x.2.1 nums none) ∧
      (let r := finishSignals c signals
       let b : Block := { startTime := t0, timeTable := tt, offsets := r.2.1, data := r.2.2 }
       loadSignal { blocks := [b] } i (.bitvec bits) =
         some { maxStates := s.maxStates,
                times := (replayAbs bits s.maxStates (absolutise 0 cs) {}).timesRev.reverse,
                entries := (replayAbs bits s.maxStates (absolutise 0 cs) {}).entriesRev.reverse }) := by
  obtain ⟨cs, hd, hdl, hpay⟩ := vcdWrites_stream bits hb calls { tpe := .bitvec bits } s rfl hw
  obtain ⟨h1, h2⟩ := block_roundtrip_of_stream c tt t0 hb (by simpa using hne) hs hd hdl
    (fun x hx => by obtain ⟨⟨nums, hl, _, _, hp⟩, _⟩ := hpay x hx; rw [hp, writeNState_length, hl]) hsorted hsmall hlen
  exact ⟨cs, h1, fun x hx => by obtain ⟨⟨nums, hl, h9, _, hp⟩, _⟩ := hpay x hx; exact ⟨nums, hl, h9, hp⟩, h2⟩

/-- **values come back**: every entry the loader builds for a signal written through the VCD vector path decodes to the kind and the
`bits` symbols of the token it was written from (left extension included), whatever the widest kind of the signal -/
theorem C04_vcd_block_values (bits : Nat) (hb2 : 2 ≤ bits) (calls : List (Nat × List Nat)) (s : SigEnc)
    (hw : vcdWrites { tpe := .bitvec bits } calls = some s) :
    ∃ cs : List (Nat × States × List Nat),
      s.dataBytes = encStream cs ∧ cs.map (·.1) = deltasFrom 0 (calls.map (·.1)) ∧
      ∀ x ∈ cs, ∃ nums d, nums.length = bits ∧ x.2.2 = writeNState x.2.1 nums none ∧
        decodeEntry s.maxStates bits (getLenAndMeta s.maxStates bits).2 (alignEntry s.maxStates x.2.1 bits x.2.2) = some (x.2.1, d) ∧
        toSyms x.2.1 d bits = nums := by
  obtain ⟨cs, hd, hdl, hpay⟩ := vcdWrites_stream bits (by omega) calls { tpe := .bitvec bits } s rfl hw
  refine ⟨cs, hd, hdl, ?_⟩
  intro x hx
  obtain ⟨⟨nums, hl, _, hfit, hp⟩, hle⟩ := hpay x hx
  obtain ⟨d, hdec, hsym⟩ := entry_roundtrip s.maxStates x.2.1 nums (List.ne_nil_of_length_pos (by omega)) hfit hle
  rw [hl] at hdec hsym
  exact ⟨nums, d, hl, hp, by rw [hp]; exact hdec, hsym⟩

/-- **the VCD scalar path is transparent within a block**: any sequence of scalar value tokens (also written as `b1` / `b0b1`) at
non-decreasing time indices → finish_block → load gives one compact entry per token at its time index; the symbol behind a
compact entry is `C04_one_bit_roundtrip` -/
theorem C04_vcd_onebit_block_roundtrip (c : Codec) (signals : Array SigEnc) (i : Nat) (s : SigEnc) (tt : List Nat) (t0 : Nat)
    (calls : List (Nat × List Nat)) (hne : calls ≠ [])
    (hw : vcdWrites { tpe := .bitvec 1 } calls = some s) (hs : signals.toList[i]? = some s)
    (hsorted : (calls.map (·.1)).Pairwise (· ≤ ·)) (hsmall : ∀ t ∈ calls.map (·.1), t < 2 ^ 27)
    (hlen : divCeil s.dataBytes.length 32 < 2 ^ 32) :
    ∃ cs : List (Nat × Nat),
      cs.map (·.1) = deltasFrom 0 (calls.map (·.1)) ∧ (∀ x ∈ cs, x.2 < 9) ∧
      (let r := finishSignals c signals
       let b : Block := { startTime := t0, timeTable := tt, offsets := r.2.1, data := r.2.2 }
       loadSignal { blocks := [b] } i (.bitvec 1) =
         some { maxStates := s.maxStates,
                times := (replayOneBit cs 0 {}).2.timesRev.reverse,
                entries := (replayOneBit cs 0 {}).2.entriesRev.reverse }) := by
  obtain ⟨cs, hd, hdl, hv⟩ := vcdWrites_stream_onebit calls { tpe := .bitvec 1 } s rfl hw
  have hd : s.dataBytes = encOneBit cs := hd  -- the fresh encoder's data computes to `[]`
  have hcs : ∀ x ∈ cs, x.2 < 16 ∧ ((x.1 <<< 4) + x.2) < 2 ^ 32 := fun x hx => by
    have h9 := hv x hx
    have := deltasFrom_lt hsmall 0 x.1 (hdl ▸ List.mem_map_of_mem hx)
    rw [Nat.shiftLeft_eq]; omega
  exact ⟨cs, hdl, hv, loadSignal_one c (.bitvec 1) tt t0 (fun _ => lebWrite_ne_nil _) hs hd
    (by rintro rfl; cases calls <;> simp [deltasFrom] at hdl hne) (show divCeil (encOneBit cs).length 32 < 2 ^ 32 from hd ▸ hlen)
    fun fuel hf => loadFixed_stream_onebit s.maxStates cs hcs fuel 0 {} hf⟩

/-- the same for the pre-encoded path (`raw_value_change`, used by the GHW loader): one entry per call at the call's time index;
`compress_template` is the same function as the slicing core `repack` (`compressTemplate_eq_repack`), so the symbols behind such
an entry are those of C13_minimal_repack -/
theorem C04_raw_block_roundtrip (c : Codec) (signals : Array SigEnc) (i : Nat) (s : SigEnc) (bits : Nat) (tt : List Nat) (t0 : Nat)
    (calls : List (Nat × List Nat × States)) (hb : bits ≠ 1) (hne : calls ≠ [])
    (hw : rawWrites { tpe := .bitvec bits } calls = some s) (hs : signals.toList[i]? = some s)
    (hsorted : (calls.map (·.1)).Pairwise (· ≤ ·)) (hsmall : ∀ t ∈ calls.map (·.1), t < 2 ^ 30)
    (hlen : divCeil s.dataBytes.length 32 < 2 ^ 32) :
    ∃ cs : List (Nat × States × List Nat),
      (absolutise 0 cs).map (·.1) = calls.map (·.1) ∧
      (let r := finishSignals c signals
       let b : Block := { startTime := t0, timeTable := tt, offsets := r.2.1, data := r.2.2 }
       loadSignal { blocks := [b] } i (.bitvec bits) =
         some { maxStates := s.maxStates,
                times := (replayAbs bits s.maxStates (absolutise 0 cs) {}).timesRev.reverse,
                entries := (replayAbs bits s.maxStates (absolutise 0 cs) {}).entriesRev.reverse }) := by
  obtain ⟨cs, hd, hdl, hpay⟩ := rawWrites_stream bits hb calls { tpe := .bitvec bits } s rfl hw
  exact ⟨cs, block_roundtrip_of_stream c tt t0 hb (by simpa using hne) hs hd hdl hpay hsorted hsmall hlen⟩

theorem C04_compress_is_repack (inS outS : States) (value : List Nat) (bits : Nat) (hbits : bits ≤ value.length * inS.bib) :
    compressTemplate value inS outS bits = Wellen.Slice.repack inS outS value 0 bits 0 :=
  Wellen.Slice.compressTemplate_eq_repack inS outS value bits hbits

/-- **segmentation does not alter the data**: for ANY number of blocks (each finished from its own set of encoders and with its own
compression decisions; the signal may be absent from some blocks), a multi-bit signal is loaded as the concatenation of the
changes recorded in each block — the time indices of block k shifted by the lengths of the earlier blocks' time tables, all
entries aligned to the widest kind over the blocks (`SigInBlock`: the signal's encoder in that block recorded the chunk stream
of the changes `p.2.2`) -/
theorem C04_multi_block_load (c : Codec) (bits : Nat) (hb : bits ≠ 1) (i : Nat) (l : List (BlockDesc × SigEnc × List Change))
    (h : ∀ p ∈ l, SigInBlock bits i p) :
    loadSignal { blocks := l.map fun p => mkBlock c p.1 } i (.bitvec bits) =
      some { maxStates := joinedStates c l,
             times := (replayBlocks bits (joinedStates c l) l 0 {}).timesRev.reverse,
             entries := (replayBlocks bits (joinedStates c l) l 0 {}).entriesRev.reverse } := by
  rw [loadSignal_blocks c _ i l fun p hp =>
      ⟨(h p hp).1, by rw [(h p hp).2.1]; exact (flatten_map_eq_nil encChange_ne_nil _).symm, (h p hp).2.2.2⟩,
    loadBlocks_replay _ _ (fun x => alignEntry (joinedStates c l) x.2.1 bits x.2.2) l, replayBlocks_eq]
  · rfl
  · intro p hp off a
    obtain ⟨_, hdata, hcs, _⟩ := h p hp
    rw [hdata]
    exact loadFixed_stream bits hb _ p.2.2 hcs _ off a (length_lt_flatten encChange_ne_nil _)

/-- reals and strings within one block, end to end -/
theorem C04_single_block_load_reals (c : Codec) (signals : Array SigEnc) (i : Nat) (s : SigEnc) (tt : List Nat) (t0 : Nat)
    (cs : List (Nat × List Nat)) (hs : signals.toList[i]? = some s) (hdata : s.dataBytes = encReals cs) (hne : cs ≠ [])
    (hcs : ∀ c ∈ cs, c.2.length = 8 ∧ c.1 < 2 ^ 32) (hlen : divCeil (encReals cs).length 32 < 2 ^ 32) :
    let r := finishSignals c signals
    let b : Block := { startTime := t0, timeTable := tt, offsets := r.2.1, data := r.2.2 }
    loadSignal { blocks := [b] } i .real =
      some { maxStates := s.maxStates, times := (replayPlain cs 0 {}).2.timesRev.reverse,
             entries := (replayPlain cs 0 {}).2.entriesRev.reverse } := by
  exact loadSignal_one c .real tt t0 (by simp [lebWrite_ne_nil]) hs hdata hne hlen
    fun fuel hf => loadReals_stream cs hcs fuel 0 {} hf

theorem C04_single_block_load_strings (c : Codec) (signals : Array SigEnc) (i : Nat) (s : SigEnc) (tt : List Nat) (t0 : Nat)
    (cs : List (Nat × List Nat)) (hs : signals.toList[i]? = some s) (hdata : s.dataBytes = encStrings cs) (hne : cs ≠ [])
    (hcs : ∀ c ∈ cs, c.1 < 2 ^ 32) (hlen : divCeil (encStrings cs).length 32 < 2 ^ 32) :
    let r := finishSignals c signals
    let b : Block := { startTime := t0, timeTable := tt, offsets := r.2.1, data := r.2.2 }
    loadSignal { blocks := [b] } i .string =
      some { maxStates := s.maxStates, times := (replayPlain cs 0 {}).2.timesRev.reverse,
             entries := (replayPlain cs 0 {}).2.entriesRev.reverse } := by
  exact loadSignal_one c .string tt t0 (by simp [lebWrite_ne_nil]) hs hdata hne hlen
    fun fuel hf => loadStrings_stream cs hcs fuel 0 {} hf

/-- the stream the theorems are about is what the encoder appends: `add_n_bit_change` on a multi-bit signal -/
theorem C04_encoder_chunk (ti : Nat) (value : List Nat) (st : States) (s s' : SigEnc) (bits : Nat)
    (ht : s.tpe = .bitvec bits) (hb : bits ≠ 1) (h : addNBit ti value st s = some s') :
    ∃ loc body, s'.chunks = encChange (ti - s.prevTimeIdx) loc body :: s.chunks := by
  obtain ⟨loc, body, -, rfl⟩ := addNBit_chunk ht hb h
  exact ⟨loc, body, rfl⟩

/-- **the store refines the specification** (VCD vector signals, two or more bits): whenever the specification denotes a waveform
`(tt, sigs)` for a history and the store accepts it, the finished store has exactly the time table `tt`, and loading signal `i`
yields exactly the change list `sigs[i]` — the time index of every change, and for every change an entry that decodes to the
smallest sufficient kind and the symbols of its value. For ANY history (repeated / backwards timestamps, several changes per
step, redundant writes, other signals of any type in between), ANY block size (`c.blockMax`: roll-over at every multiple) and ANY
compression decision (`c.wantCompress`). `hsmall`: no block beyond 2^36 bytes (32-bit compressed-length field). -/
theorem C04_store_refines_spec (c : Codec) (bits i : Nat) (hb2 : 2 ≤ bits) (hbm : 1 ≤ c.blockMax) (hbmax : c.blockMax ≤ 2 ^ 30)
    (tps : List SigType) (hti : tps[i]? = some (.bitvec bits)) (ops : List Spec.Op)
    (hraw : ∀ op ∈ ops, ∀ st b, op ≠ .raw i st b)
    (e : Enc) (he : Spec.runOps c (newEnc tps) ops = some e)
    (tt : List Nat) (sigs : List (List (Nat × Spec.Value))) (hrun : Spec.run tps ops = some (tt, sigs))
    (hsmall : ∀ b ∈ (finish c e).1.blocks, b.data.length < 2 ^ 36) :
    (finish c e).2 = tt ∧
    ∃ sigS chg, sigs[i]? = some chg ∧
      loadSignal (finish c e).1 i (.bitvec bits) =
        some { maxStates := sigS, times := chg.map (·.1), entries := chg.map (entryOf bits sigS) } ∧
      ∀ x ∈ chg, ∃ syms d, x.2 = .bits syms ∧
        decodeEntry sigS bits (getLenAndMeta sigS bits).2 (entryOf bits sigS x) = some (Spec.kindOf syms, d) ∧
        toSyms (Spec.kindOf syms) d bits = syms := by
  obtain ⟨s, hs, -, hsigs⟩ := Spec.run_fold hrun
  constructor
  · -- time table: both are the strictly increasing prefix maxima of the timestamps
    rw [Spec.finish_table_of_run he, Spec.run_table hrun]
  · obtain ⟨sigS, hload, hwf⟩ := store_load_vector_canon hb2 hbm hbmax hti he hs hsmall
    refine ⟨sigS, Spec.canon (s.changesRev.getD i []).reverse, ?_, hload, ?_⟩
    · rw [hsigs]; exact Spec.run_sig hs hti
    · intro x hx
      exact entryOf_decodes hb2 x.1 (hwf x ((Spec.canon_sublist _).subset hx))

/-- **the store refines the specification — every signal type, both write paths, any number of appended encoders** (vectors,
one-bit signals, reals, strings; VCD tokens, `real` operations and pre-encoded GHW-style writes `add_n_bit_change`; `split`
operations: a new encoder per segment, joined by `Encoder::append` as in a multi-threaded load): loading signal `i` from the
finished store yields exactly `Spec.run`'s change list for it: the time index of every change and, per change, the entry of
its value (`C04_entries_of_values`: the string's bytes, the double's 8 bytes, the one-bit code byte, the aligned packed symbols
in their smallest kind — `checkMinState_kindOf` for pre-encoded values). Hypotheses: parsed reals are 8 bytes, no block beyond
2^36 bytes, block size between 1 and 2^28 time steps. -/
theorem C04_store_refines_spec_all (c : Codec) (i : Nat) (hbm : 1 ≤ c.blockMax) (hbmax : c.blockMax ≤ 2 ^ 28)
    (tps : List SigType) (tpe : SigType) (hw : ∀ b, tpe = .bitvec b → 1 ≤ b) (hti : tps[i]? = some tpe) (ops : List Spec.Op)
    (hreal : ∀ op ∈ ops, ∀ j v r, op = .vcd j v (some r) → r.length = 8)
    (e : Enc) (he : Spec.runSegs c tps ops = some e)
    (tt : List Nat) (sigs : List (List (Nat × Spec.Value))) (hrun : Spec.run tps ops = some (tt, sigs))
    (hsmall : ∀ b ∈ (finish c e).1.blocks, b.data.length < 2 ^ 36) :
    ∃ sigS chg, sigs[i]? = some chg ∧
      loadSignal (finish c e).1 i tpe =
        some { maxStates := sigS, times := chg.map (·.1),
               entries := chg.map (fun x => (kindFor tpe hw).entry sigS (encVK (kindFor tpe hw) x)) } ∧
      ∀ x ∈ chg, WFK (kindFor tpe hw) sigS x.2 := by
  obtain ⟨s, hs, -, hsigs⟩ := Spec.run_fold hrun
  have hti' : tps[i]? = some (kindFor tpe hw).tpe := by rw [kindFor_tpe]; exact hti
  obtain ⟨sigS, hload, hwf⟩ := store_load_canonK (kindFor_ok tpe hw) hbm hbmax hti' hreal he hs hsmall
  rw [kindFor_tpe] at hload
  refine ⟨sigS, Spec.canon (s.changesRev.getD i []).reverse, ?_, hload, ?_⟩
  · rw [hsigs]; exact Spec.run_sig hs hti
  · intro x hx
    exact hwf x ((Spec.canon_sublist _).subset hx)

/-- a history without splits is run by one encoder -/
theorem C04_runSegs_single (c : Codec) (tps : List SigType) (ops : List Spec.Op) (e : Enc)
    (h : Spec.runOps c (newEnc tps) ops = some e) : Spec.runSegs c tps ops = some e := by
  have := (Spec.runSegs_joinSegs (rest := []) (List.forall_mem_singleton.mpr (Spec.runOps_nosplit h))).mpr
    ⟨e, [], by rw [List.mapM_cons, h]; rfl, rfl⟩
  rwa [Spec.joinSegs, List.append_nil] at this

/-- what the entries are, per signal type -/
theorem C04_entries_of_values (sigS : States) (k : Nat) :
    (∀ b, strKind.entry sigS (encVK strKind (k, .str b)) = b) ∧
    (∀ le, realKind.entry sigS (encVK realKind (k, .real le)) = le) ∧
    (∀ b, bitKind.entry sigS (encVK bitKind (k, .bits [b])) = oneBitEntry b) ∧
    (∀ bits hb2 syms, (vecKind bits hb2).entry sigS (encVK (vecKind bits hb2) (k, .bits syms)) =
      alignEntry sigS (Spec.kindOf syms) bits (writeNState (Spec.kindOf syms) syms none)) :=
  ⟨fun _ => rfl, fun _ => rfl, fun _ => rfl, fun _ _ _ => rfl⟩

/-! non-vacuity of `C04_store_refines_spec`: a history with a repeated and a backwards timestamp, a redundant write, a shortened
token, a second signal of another type and a block roll-over (block size 2) is accepted by the store and by the specification -/
def nvC : Codec := { wantCompress := fun _ => false, blockMax := 2 }
def nvOps : List Spec.Op :=
  [.time 5, .vcd 0 [98, 49, 48, 49] none, .real 1 [0, 0, 0, 0, 0, 0, 0, 0], .time 5, .vcd 0 [98, 120, 49] none, .time 3,
   .vcd 0 [98, 49, 49, 49] none, .time 9, .vcd 0 [98, 120, 49] none, .time 12, .vcd 0 [98, 49] none, .vcd 0 [66, 48, 48, 49] none]
example : (Spec.runOps nvC (newEnc [.bitvec 3, .real]) nvOps).isSome = true := by decide +kernel
example : Spec.run [.bitvec 3, .real] nvOps =
    some ([5, 9, 12], [[(0, .bits [1, 0, 1]), (0, .bits [2, 2, 1]), (2, .bits [0, 0, 1])], [(0, .real [0, 0, 0, 0, 0, 0, 0, 0])]]) := by
  decide +kernel
example : ((Spec.runOps nvC (newEnc [.bitvec 3, .real]) nvOps).map fun e =>
    ((finish nvC e).1.blocks.map (·.data.length), (finish nvC e).2)) = some ([17, 5], [5, 9, 12]) := by decide +kernel

example : ∀ c ∈ [((0 : Nat), States.two, [(5 : Nat)]), (3, States.four, [10])],
    c.2.2.length = divCeil 4 c.2.1.bib ∧ ((c.1 <<< 2) ||| c.2.1.toNat) < 2 ^ 32 := by decide

example : ∃ d, decodeEntry .nine 6 (getLenAndMeta .nine 6).2
    (alignEntry .nine .four 6 (writeNState .four [1, 0, 2, 3, 0, 1] none)) = some (.four, d) ∧
    toSyms .four d 6 = [1, 0, 2, 3, 0, 1] :=
  C04_entry_roundtrip .nine .four [1, 0, 2, 3, 0, 1] (by decide) (by decide) (by decide)

/-- **how a recording was divided among parser threads does not matter**: two divisions (`split` marks at different places, or
none at all) of the same operations denote the same time table and the same change list for every signal — and by
`C04_store_refines_spec_all` the store loads exactly what is denoted, for each of them -/
theorem C04_division_irrelevant (tps : List SigType) (ops1 ops2 : List Spec.Op)
    (hsame : Spec.dropSplits ops1 = Spec.dropSplits ops2)
    (r1 r2 : List Nat × List (List (Nat × Spec.Value)))
    (h1 : Spec.run tps ops1 = some r1) (h2 : Spec.run tps ops2 = some r2) : r1 = r2 := by
  have e1 := Spec.run_dropSplits tps ops1 r1 h1
  have e2 := Spec.run_dropSplits tps ops2 r2 h2
  rw [hsame, e2] at e1
  exact (Option.some.inj e1).symm

/-- non-vacuity: the same four operations, undivided and divided before the second time step -/
example : Spec.run [.bitvec 1] [.time 0, .vcd 0 [49] none, .time 5, .vcd 0 [48] none] =
    Spec.run [.bitvec 1] [.time 0, .vcd 0 [49] none, .split, .time 5, .vcd 0 [48] none] := by decide

end Wellen.Store
