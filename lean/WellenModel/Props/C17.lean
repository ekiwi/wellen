import WellenModel.Proofs.Serde
/-!
# C17 — serialised hierarchies and signals survive a round trip

Model: `Model/Serde.lean` — the serde data model of every `serde1`-derived type. The Lean records
have exactly the serialised fields, and every public accessor of `Hierarchy` / `Signal` is a function
of those fields, so `ofS (toS x) = some x` means the deserialised object is the same object and
behaves identically under every accessor.
Partial by nature: the expansion of `#[derive(Serialize, Deserialize)]` and serde_json's text layer
are trusted; they are validated by the differential run (the real JSON of hierarchies and signals
must be reproduced exactly by `toS ∘ ofS`, and the real round trip must preserve every observer).
-/
namespace Wellen.Serde

/-- a Hierarchy round-trips through the serde data model, including negative / zero-width bit ranges
(`VarIndex`), `NonZero` ids, enum tables, source locators and the slices map -/
theorem C17_hier_roundtrip (h : HierM) (hw : h.WF) : HierM.ofS h.toS = some h := by
  obtain ⟨h1, h2, h3, h4, h5, h6, h7, h8⟩ := hw
  simp only [HierM.ofS, HierM.toS, asMap, fld, List.lookup, Option.bind_eq_bind, Option.bind_some, String.reduceBEq]
  rw [asList_map VarM.ofS VarM.toS h.vars (fun v hv => VarM.roundtrip v (h1 v hv)),
    asList_map ScopeM.ofS ScopeM.toS h.scopes (fun v hv => ScopeM.roundtrip v (h2 v hv)),
    asOpt_itemId _ h3,
    asList_map asStr SVal.str h.strings (fun _ _ => rfl),
    asList_map SourceLocM.ofS SourceLocM.toS h.sourceLocs (fun v hv => SourceLocM.roundtrip v (h4 v hv)),
    asList_map EnumTypeM.ofS EnumTypeM.toS h.enums (fun v hv => EnumTypeM.roundtrip v (h5 v hv)),
    asList_map (asOpt asNz) (ofOpt nz) h.signalIdxToVar (fun o ho => asOpt_nz o (h6 o ho)),
    MetaM.roundtrip _ h7,
    mapM_map sliceEntryOfS sliceEntryToS h.slices (fun p hp => sliceEntry_roundtrip p (h8 p hp))]
  rfl

/-- a loaded Signal (2/4/9-state bit vectors, reals, strings) round-trips -/
theorem C17_signal_roundtrip (s : SignalM) (h : 0 < s.idx ∧ s.data.WF) : SignalM.ofS s.toS = some s := by
  simp only [SignalM.ofS, SignalM.toS, asMap, fld, List.lookup, Option.bind_eq_bind, Option.bind_some, String.reduceBEq]
  rw [asNz_nz _ h.1, asList_map asNat (fun (x : Nat) => SVal.int x) s.timeIndices (fun a _ => asNat_int a),
    ChangeDataM.roundtrip _ h.2]
  rfl

/-- the zero-width replacement value `i32::MIN` and negative bounds survive -/
theorem C17_varindex_roundtrip (v : VarIndexM) (h : v.width ≠ 0) : VarIndexM.ofS v.toS = some v :=
  VarIndexM.roundtrip v h

/-- deserialisation rejects what the types cannot hold: a zero id, a zero width -/
theorem C17_rejects_zero : asNz (.int 0) = none ∧ VarIndexM.ofS (.map [("lsb", .int 3), ("width", .int 0)]) = none :=
  ⟨rfl, rfl⟩

/-- non-vacuity: a variable with a negative bit range -/
def exVar : VarM where
  name := 2
  varTpe := "Wire"
  direction := "Unknown"
  signalEncoding := SigEncM.bitvec 4
  index := some { lsb := -4, width := 3 }
  signalIdx := 1
  enumType := none
  vhdlTypeName := none
  parent := some 1
  next := some (ItemIdM.var 2)

example : VarM.ofS exVar.toS = some exVar :=
  VarM.roundtrip _ {
    name := by decide, tpe := by decide, dir := by decide, enc := (by decide : 0 < 4)
    index := fun _ h => Option.some.inj h ▸ (by decide : (3 : Int) ≠ 0)
    sig := by decide, enumType := nofun, typeName := nofun
    parent := fun _ h => Option.some.inj h ▸ (by decide : 0 < 1)
    next := fun _ h => Option.some.inj h ▸ (by decide : 0 < 2) }

end Wellen.Serde
