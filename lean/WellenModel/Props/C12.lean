import WellenModel.Model.GhwSpec
/-!
# C12 — the same waveform loads identically from VCD, FST and GHW

The formats differ in redundancy (a VCD or GHW file may record a value that did not change, FST merges
delta cycles, GHW records per bit) and in their time unit. The theorems say that the common interface
is insensitive to exactly these differences: the value at every time index is unchanged by the removal
of immediate repetitions (what every loader does, C06), and scaling all timestamps by the timescale
factor commutes with the construction of the time table. The loaders themselves are tied to their
formats by C01 / C09 (VCD), C10 (FST) and C11 (GHW); the cross-format comparison on generated designs
and corpus pairs is the correspondence part of this check.
-/
namespace Wellen.GhwSpec
open Wellen.Spec

/-- the value a change list shows at time index `i`: the last entry at or before `i` (`p` before the first) -/
def scanAt (p : Option Value) : List (Nat × Value) → Nat → Option Value
  | [], _ => p
  | y :: r, i => if y.1 ≤ i then scanAt (some y.2) r i else scanAt p r i

def valueAt (l : List (Nat × Value)) (i : Nat) : Option Value := scanAt none l i

theorem scanAt_all_gt (p : Option Value) (r : List (Nat × Value)) (i : Nat) (h : ∀ y ∈ r, i < y.1) : scanAt p r i = p := by
  induction r generalizing p with
  | nil => rfl
  | cons y r ih =>
    have hy := h y (by simp)
    have : ¬ y.1 ≤ i := by omega
    simp only [scanAt, this, ↓reduceIte]
    exact ih p (fun z hz => h z (by simp [hz]))

/-- dropping the repetitions of `prev` does not change what is shown, provided `prev` is the value shown whenever the list
has an entry at or before `i` at all -/
theorem scanAt_go {i : Nat} {r : List (Nat × Value)} {p : Option Value} {prev : Value}
    (hs : r.Pairwise (fun a b => a.1 ≤ b.1)) (hp : (∃ y ∈ r, y.1 ≤ i) → p = some prev) :
    scanAt p (canon.go prev r) i = scanAt p r i := by
  induction r generalizing p prev with
  | nil => rfl
  | cons y r ih =>
    obtain ⟨hy, hr⟩ := List.pairwise_cons.mp hs
    -- after an entry beyond `i` there is none at or before `i`
    have hlate : ¬ y.1 ≤ i → ¬ ∃ z ∈ r, z.1 ≤ i := fun h ⟨z, hz, hzi⟩ => h (Nat.le_trans (hy z hz) hzi)
    simp only [canon.go, scanAt]
    split
    · rename_i heq
      have : (if y.1 ≤ i then scanAt (some y.2) r i else scanAt p r i) = scanAt p r i := by
        split
        · rename_i hle; rw [hp ⟨y, List.mem_cons_self .., hle⟩, heq]
        · rfl
      rw [this]
      exact ih hr fun ⟨z, hz, hzi⟩ => hp ⟨z, List.mem_cons_of_mem _ hz, hzi⟩
    · simp only [scanAt]
      split
      · exact ih hr fun _ => rfl
      · rename_i hle
        exact ih hr fun h => absurd h (hlate hle)

/-- **the value at every time is not affected by the removal of immediate repetitions**: a file that repeats
an unchanged value and a file that does not show the same value at every time index -/
theorem C12_value_at_canon (l : List (Nat × Value)) (i : Nat) (hs : l.Pairwise (fun a b => a.1 ≤ b.1)) :
    valueAt (canon l) i = valueAt l i := by
  cases l with
  | nil => rfl
  | cons x r =>
    obtain ⟨hx, hr⟩ := List.pairwise_cons.mp hs
    simp only [valueAt, canon, scanAt]
    split
    · exact scanAt_go hr fun _ => rfl
    · rename_i hle
      exact scanAt_go hr fun ⟨z, hz, hzi⟩ => absurd (Nat.le_trans (hx z hz) hzi) hle

theorem scanAt_lastPerStep (l : List (Nat × Value)) (p : Option Value) (i : Nat) :
    scanAt p (lastPerStep l) i = scanAt p l i := by
  fun_induction lastPerStep l generalizing p with
  | case1 => rfl
  | case2 x => rfl
  | case3 x y rest heq ih =>
    rw [ih]
    simp only [scanAt, heq]
    split <;> rfl
  | case4 x y rest hne ih => simp only [scanAt, ih]

/-- **merging the delta cycles of a time step (what an FST file stores: one value per signal and time, the last one) does not
change the value shown at any time index** -/
theorem C12_value_at_merged (l : List (Nat × Value)) (i : Nat) : valueAt (lastPerStep l) i = valueAt l i :=
  scanAt_lastPerStep l none i

theorem spm_go_map (f : Nat → Nat) (hf : ∀ a b, f a < f b ↔ a < b) (m : Nat) (l : List Nat) :
    strictPrefixMax.go (f m) (l.map f) = (strictPrefixMax.go m l).map f := by
  induction l generalizing m with
  | nil => rfl
  | cons u r ih =>
    simp only [List.map_cons, strictPrefixMax.go, gt_iff_lt, hf]
    split
    · rw [ih, List.map_cons]
    · rw [ih]

/-- **time tables agree up to the timescale**: expressing every timestamp in a `k` times finer unit scales the time table and
keeps every index (so a VCD in ps and a GHW file in fs show the same table once both are converted to fs) -/
theorem C12_timescale (k : Nat) (hk : 0 < k) (l : List Nat) :
    strictPrefixMax (l.map (· * k)) = (strictPrefixMax l).map (· * k) := by
  cases l with
  | nil => rfl
  | cons t r => simp [strictPrefixMax, spm_go_map (· * k) (fun _ _ => Nat.mul_lt_mul_right hk) t r]

/-- non-vacuity: a repeated value and a delta cycle -/
example : valueAt [(0, .bits [1]), (1, .bits [1]), (3, .bits [0]), (3, .bits [1])] 2 = some (.bits [1]) ∧
          valueAt (canon [(0, .bits [1]), (1, .bits [1]), (3, .bits [0]), (3, .bits [1])]) 2 = some (.bits [1]) ∧
          valueAt [(0, .bits [1]), (1, .bits [1]), (3, .bits [0]), (3, .bits [1])] 3 = some (.bits [1]) := by decide
example : strictPrefixMax ([0, 5, 5, 3, 7].map (· * 1000)) = [0, 5000, 7000] := by decide

end Wellen.GhwSpec
