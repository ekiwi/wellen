import WellenModel.Proofs.TimeTable
import WellenModel.Proofs.SpecPrefix
import WellenModel.Proofs.Canon
/-!
# C02 — the time table is the strictly increasing list of recorded time steps

Model: `Encoder::{time_change, finish_block, finish, combine_time_tables}` and the value-change
entry points (wavemem.rs 453-595) in `Model/Store.lean`; `blockMax` (= `BlockTimeIdx::MAX`) is a
parameter of the model: the theorems hold for every block size and every number of time steps.
-/
namespace Wellen.Spec
open Wellen.Bits Wellen.Store

/-- **exactness**: after any history of time / value operations that the encoder accepts, the
table returned by `finish` is exactly the list of timestamps greater than all earlier ones
(each once) — whatever the block size, hence across every multiple of 65535. -/
theorem C02_timeTable_exact (c : Codec) (tps : List SigType) (ops : List Op) (e : Enc)
    (h : runOps c (newEnc tps) ops = some e) :
    (finish c e).2 = strictPrefixMax (timesOf ops) :=
  finish_table_of_run h

/-- … so it is strictly increasing -/
theorem C02_timeTable_strict (c : Codec) (tps : List SigType) (ops : List Op) (e : Enc)
    (h : runOps c (newEnc tps) ops = some e) :
    ((finish c e).2).Pairwise (· < ·) := by
  rw [C02_timeTable_exact c tps ops e h]; exact spm_pairwise _

theorem first_occurrence_cons (u x : Nat) (r : List Nat) :
    (∃ pre post, u :: r = pre ++ x :: post ∧ ∀ y ∈ pre, y < x) ↔
      x = u ∨ (u < x ∧ ∃ pre post, r = pre ++ x :: post ∧ ∀ y ∈ pre, y < x) := by
  constructor
  · rintro ⟨pre, post, h1, h3⟩
    cases pre with
    | nil => cases h1; exact .inl rfl
    | cons p pre => cases h1; exact .inr ⟨h3 _ (by simp), pre, post, rfl, fun y hy => h3 y (by simp [hy])⟩
  · rintro (rfl | ⟨h2, pre, post, rfl, h3⟩)
    · exact ⟨[], r, rfl, nofun⟩
    · exact ⟨u :: pre, post, rfl, by simpa using ⟨h2, h3⟩⟩

theorem mem_spm_go_iff (m x : Nat) (r : List Nat) :
    x ∈ strictPrefixMax.go m r ↔ m < x ∧ ∃ pre post, r = pre ++ x :: post ∧ ∀ y ∈ pre, y < x := by
  induction r generalizing m with
  | nil => simp [strictPrefixMax.go]
  | cons u r ih =>
    rw [first_occurrence_cons, strictPrefixMax.go]
    split
    · rename_i hu
      rw [List.mem_cons, ih u]
      exact ⟨fun h => ⟨h.elim (fun e => e ▸ hu) fun h => Nat.lt_trans hu h.1, h⟩, fun h => h.2⟩
    · rename_i hu
      rw [ih m]
      exact ⟨fun ⟨h1, h2⟩ => ⟨h1, .inr ⟨Nat.lt_of_le_of_lt (Nat.not_lt.mp hu) h1, h2⟩⟩,
        fun ⟨h1, h⟩ => h.elim (fun e => absurd (e ▸ h1) hu) fun h => ⟨h1, h.2⟩⟩

/-- what `strictPrefixMax` means: `t` is in the table iff some occurrence of `t` in the history
is greater than every timestamp before it. -/
theorem C02_mem_iff (ts : List Nat) (x : Nat) :
    x ∈ strictPrefixMax ts ↔ ∃ pre post, ts = pre ++ x :: post ∧ ∀ y ∈ pre, y < x := by
  cases ts with
  | nil => simp [strictPrefixMax]
  | cons t0 r => rw [first_occurrence_cons, strictPrefixMax, List.mem_cons, mem_spm_go_iff]

/-- **every change of the waveform a history denotes carries an index into its time table** -/
theorem C02_indices_valid (types : List SigType) (ops : List Op) (tt : List Nat) (sigs : List (List (Nat × Value)))
    (h : run types ops = some (tt, sigs)) : ∀ l ∈ sigs, ∀ p ∈ l, p.1 < tt.length := by
  -- the waveform extends the empty one (`fold_ext`), so every recorded index lies within its table
  obtain ⟨s, hs, rfl, rfl⟩ := run_fold h
  have hext := fold_ext (s := specInit types) rfl hs
  intro l hl p hp
  obtain ⟨l0, hl0, rfl⟩ := List.mem_map.mp hl
  obtain ⟨i, hi, rfl⟩ := List.getElem_of_mem hl0
  obtain ⟨new, e, b⟩ := hext.ch i
  have hi' : i < s.changesRev.size := by simpa using hi
  rw [specInit_getD, List.append_nil] at e
  have : s.changesRev.toList[i] = new := by rw [← e]; simp [Array.getD_eq_getD_getElem?, hi']
  have hp' := (canon_sublist _).subset hp
  rw [List.mem_reverse, this] at hp'
  rw [List.length_reverse, ← hext.wf]
  exact (b p hp').2

/-- the table of a history with repeated and backwards timestamps -/
example : strictPrefixMax [5, 7, 7, 3, 7, 9] = [5, 7, 9] := by decide

end Wellen.Spec
