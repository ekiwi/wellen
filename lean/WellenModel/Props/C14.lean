import WellenModel.Proofs.VcdStop
/-!
# C14 — all entry points load the same waveform (VCD body driver part)

The memory-mapped path parses the body with stop position `len − 1`, the stream path with the
length of the whole file; both are at or beyond the end of the body, so both produce the events of
the unbounded parse (`C14_stop_irrelevant`) and hence the same encoder (`C14_reader_eq_mmap`).
Partial by nature: mmap / BufReader / Cursor semantics, the ProgressTracker pass-through and file
I/O are runtime behaviour no model exhibits; they are covered by the differential run only.
-/
namespace Wellen.VcdBody
open Wellen.Store

theorem C14_stop_irrelevant (bs : List Nat) (s : Nat) (nl : Bool) (h : bs.length ≤ s + 2) :
    parseBody (some s) bs nl = parseBody none bs nl :=
  run_stop_irrelevant s bs (initM nl) (by simpa [initM] using h)

/-- the stream entry point and the memory-mapped single-threaded entry point produce the same result: the same encoder
(time table, blocks, pending block — every field), or the same error / panic class -/
theorem C14_reader_eq_mmap (c : Codec) (d : Decls) (rm : RealMap) (body : List Nat) (fileLen : Nat)
    (hf : body.length ≤ fileLen) :
    readValues c d rm body (.reader fileLen) = readValues c d rm body .single := by
  simp only [readValues, readStream]
  rw [C14_stop_irrelevant body fileLen false (by omega), C14_stop_irrelevant body (body.length - 1) false (by omega)]

/-- the debug-assertion build takes the same path in the model, which has no build-dependent branch in the body driver; the code has one:
`debug_assert!(token.len() > 1)` in `parse_first_token` (a first token of one byte), which is not modelled -/
theorem C14_checked_eq_release (c : Codec) (d : Decls) (rm : RealMap) (body : List Nat) :
    readValues c d rm body .singleChecked = readValues c d rm body .single := rfl

example : parseBody (some 12) [10, 35, 53, 10, 49, 33, 10, 98, 49, 48, 32, 34, 10] =
    parseBody (some 100) [10, 35, 53, 10, 49, 33, 10, 98, 49, 48, 32, 34, 10] := by decide +kernel

end Wellen.VcdBody
