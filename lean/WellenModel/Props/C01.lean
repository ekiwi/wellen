import WellenModel.Proofs.VcdLex
import WellenModel.Proofs.Canon
import WellenModel.Proofs.EvOps
import WellenModel.Props.C14
/-!
# C01 — VCD value changes are reported faithfully

Model: `Model/VcdBody.lean` (parse_body, parse_first_token, VcdEncoder, id_to_int / id map) on top of
`Model/Store.lean`. Proved here (for every byte string / value, no bounds):
* the byte-level state machine of `parse_body` is the token-level interpreter `interpT`
  (`C01_lexing`): white space of any kind and amount, LF/CRLF, blank lines and token placement do
  not matter, and nothing but the listed token classes produces events;
* the characters rendered are the lower-cased characters written (`C01_chars`, over the generated tables; that the kind
  stored with a value is the smallest sufficient one is `C06_write_kind_minimal`).
* a successful single-threaded load IS the store run on the operations its tokens denote
  (`C01_load_is_store_run`: identifier codes resolved, the implicit time 0 of a body that starts
  with a value inserted), and its time table is the strictly increasing list of the `#` tokens
  (`C01_time_table`); `C01_later_chunk`: a later chunk of a multi-threaded load drops the values
  in front of its first timestamp and is otherwise the same run.
What the store makes of those operations is the subject of C02 / C04 / C06: `C04_store_refines_spec_all` applies to the
operations of `C01_load_is_store_run` through `C04_runSegs_single` (done for the single-threaded side in `C03_mt_eq_st_given_handover`).
-/
namespace Wellen.VcdBody
open Wellen.Bits

/-- `parse_body` = token interpreter, for every byte string -/
theorem C01_lexing (bs : List Nat) (nl : Bool) : parseBody none bs nl = tokenSpec bs nl := by
  unfold parseBody tokenSpec
  cases nl with
  | false => exact run_skipNl bs 0
  | true => exact run_first bs 0

/-- a value token's characters come back lower-cased, whatever kind they are stored in -/
theorem C01_chars (c : Fin 256) (v : Nat) (h : bitCharToNum c.val = some v) :
    v < 9 ∧ Gen.lookup9[v]? = some (toLower c.val) :=
  bitChar_some c.val v h

/-- a token is classified as a timestamp only if it is `#` + decimal digits (optional `+`) below 2^64, and then with that number as
its time; that every such token is one is the first clause of `parseFirst` (`$dumpall` is an ignored bracket like `$dumpvars`
since fix F24) -/
theorem C01_time_tokens (tok : List Nat) (t : Nat) (h : parseFirst tok = .time t) :
    ∃ rest, tok = 35 :: rest ∧ parseNat rest = some t := by
  cases tok with
  | nil => cases h
  | cons c rest =>
    unfold parseFirst at h
    simp only at h
    by_cases hc : c = 35
    · subst hc
      refine ⟨rest, rfl, ?_⟩
      rw [if_pos rfl] at h
      cases hp : parseNat rest with
      | none => rw [hp] at h; cases h
      | some t' => rw [hp] at h; cases h; rfl
    · -- any other first byte: one-bit value, vector value, `$comment`, an ignored keyword or a bad token
      rw [if_neg hc] at h
      by_cases h1 : oneBitChars.contains c = true
      · rw [if_pos h1] at h; cases h
      rw [if_neg h1] at h
      by_cases h2 : multiBitChars.contains c = true
      · rw [if_pos h2] at h; cases h
      rw [if_neg h2] at h
      by_cases h3 : c :: rest = kwComment
      · rw [if_pos h3] at h; cases h
      rw [if_neg h3] at h
      split at h <;> cases h

/-- a body that loads (single-threaded) is the store run on the operations of its tokens -/
theorem C01_load_is_store_run (c : Store.Codec) (d : Decls) (rm : RealMap) (body : List Nat) (enc : Store.Enc)
    (h : readValues c d rm body .single = .ok enc) :
    ∃ evs ops, tokenSpec body = .ok evs ∧ opsOfEvs d rm (implicitZero evs) = some ops ∧
      Spec.runOps c (Store.newEnc d.sigTypes) ops = some enc := by
  obtain ⟨evs, ops, hp, ho, hr⟩ := readStream_ok h
  rw [C14_stop_irrelevant body (body.length - 1) false (by omega), C01_lexing] at hp
  exact ⟨evs, ops, hp, ho, hr⟩

/-- ... and its time table is the list of timestamp tokens greater than all earlier ones (with a leading 0 when the body starts
with a value change) -/
theorem C01_time_table (c : Store.Codec) (d : Decls) (rm : RealMap) (body : List Nat) (enc : Store.Enc)
    (h : readValues c d rm body .single = .ok enc) :
    ∃ evs, tokenSpec body = .ok evs ∧ (Store.finish c enc).2 = Spec.strictPrefixMax (evTimes (implicitZero evs)) := by
  obtain ⟨evs, ops, hp, ho, hr⟩ := C01_load_is_store_run c d rm body enc h
  exact ⟨evs, hp, by rw [Spec.finish_table_of_run hr, timesOf_opsOfEvs ho]⟩

/-- a later chunk of a multi-threaded load: the values in front of its first timestamp belong to its predecessor -/
theorem C01_later_chunk (c : Store.Codec) (d : Decls) (rm : RealMap) (e : Store.Enc) (evs : List Ev) :
    (applyEvs c d rm { enc := e, isFirst := false } evs).map (·.enc) =
      (opsOfEvs d rm (fromFirstTime evs)).bind (Spec.runOps c e) :=
  applyEvs_later c d rm e evs

/-! non-vacuity: a small body through both sides -/
example : opsOfEvs { useMap := false, mapIds := [], varSig := [], sigTypes := [] } [] (implicitZero [.value [49] [33], .time 5]) =
    some [.time 0, .vcd 0 [49] none, .time 5] := by rfl

example : parseBody none [10, 35, 53, 10, 49, 33, 10, 98, 49, 48, 32, 34, 10] =
    .ok [.time 5, .value [49] [33], .value [98, 49, 48] [34]] := by decide +kernel
example : tokenSpec [10, 35, 53, 10, 49, 33, 10, 98, 49, 48, 32, 34, 10] =
    .ok [.time 5, .value [49] [33], .value [98, 49, 48] [34]] := by decide +kernel

end Wellen.VcdBody
