import WellenModel.Proofs.Offset
/-!
# C05 — point queries return the latest change at or before the requested index

Model: `WellenModel/Model/Offset.lean` (signals.rs 226-282, 470-524).  All statements are for
every non-decreasing index array of any length and every query index.
-/
namespace Wellen.Offset

/-- `get_offset` never panics (no usize underflow, no out-of-bounds index). -/
theorem C05_never_panics (a : Array Nat) (i : Nat) (hs : Sorted a) : getOffset a i ≠ none := by
  rcases getOffset_cases a i hs with ⟨h, _⟩ | ⟨d, n, h, _⟩ <;> rw [h] <;> nofun

/-- `None` exactly when the signal has no change at an index `≤ i`. -/
theorem C05_none_iff (a : Array Nat) (i : Nat) (hs : Sorted a) :
    getOffset a i = some none ↔ ∀ j, j < a.size → i < a[j]! := by
  rcases getOffset_cases a i hs with ⟨h, hall⟩ | ⟨d, n, h, hg⟩
  · exact ⟨fun _ => hall, fun _ => h⟩
  · rw [h]
    exact ⟨nofun, fun hall => absurd hg.le_needle (Nat.not_le_of_lt (hall _ hg.start_lt))⟩

/-- Otherwise the result designates the group of the greatest index `≤ i`:
`start` first of the group, `n` its size (`elements = n mod 2^16`), `time_match`, `next_index`. -/
theorem C05_group (a : Array Nat) (i : Nat) (hs : Sorted a)
    (hex : ∃ j, j < a.size ∧ a[j]! ≤ i) :
    ∃ d n, getOffset a i = some (some d) ∧ GroupSpec a i d n := by
  rcases getOffset_cases a i hs with ⟨_, hall⟩ | h
  · obtain ⟨j, hj, hji⟩ := hex
    exact absurd hji (Nat.not_le_of_lt (hall j hj))
  · exact h

/-- `elements` is the exact group size whenever fewer than 65536 changes share one index. -/
theorem C05_elements_exact (a : Array Nat) (i : Nat) (d : DataOffset) (n : Nat)
    (h : GroupSpec a i d n) (hn : n < 65536) : d.elements = n := by
  rw [h.elements, Nat.mod_eq_of_lt hn]

/-- `next_index` is the index of the following group, strictly greater, absent after the last. -/
theorem C05_next (a : Array Nat) (i : Nat) (d : DataOffset) (n : Nat) (hs : Sorted a)
    (h : GroupSpec a i d n) :
    (d.start + n = a.size ∧ d.nextIndex = none) ∨
    (d.start + n < a.size ∧ d.nextIndex = some a[d.start + n]! ∧ a[d.start]! < a[d.start + n]!) := by
  rw [h.next]
  by_cases hc : d.start + n < a.size
  · have hlt := Nat.lt_of_le_of_lt h.le_needle (h.after hs (Nat.le_refl _) hc)
    exact .inr ⟨hc, by rw [if_pos hc, nonZero, if_neg (Nat.ne_of_gt (Nat.zero_lt_of_lt hlt))], hlt⟩
  · exact .inl ⟨Nat.le_antisymm h.n_le (Nat.not_lt.mp hc), if_neg hc⟩

/-- `get_time_idx_at` and `get_value_at` agree with `time_indices` position by position:
element `e` of the group is data position `start + e`, whose time index is the group's. -/
theorem C05_value_pos (a : Array Nat) (i : Nat) (d : DataOffset) (n e : Nat)
    (h : GroupSpec a i d n) (hn : n < 65536) (he : e < n) :
    valuePos d e = some (d.start + e) ∧ a[d.start + e]! = getTimeIdxAt a d := by
  have := C05_elements_exact a i d n h hn
  constructor
  · simp [valuePos, this, he]
  · have hlt := Nat.add_lt_add_left he d.start
    exact (h.group _ (Nat.lt_of_lt_of_le hlt h.n_le)).mpr ⟨Nat.le_add_right .., hlt⟩

/-- `iter_changes` yields `(time_indices[p], value p)` for `p = 0 .. len-1` in order. -/
theorem C05_iter (a : Array Nat) :
    (iterChanges a).length = a.size ∧
    ∀ p, (h : p < (iterChanges a).length) → (iterChanges a)[p] = (a[p]!, p) := by
  constructor
  · simp [iterChanges]
  · intro p h; simp [iterChanges]

/-- F18 (known finding): the `u16` field wraps — stated for any array whose group has 65536
members: the reported `elements` is 0, so `get_value_at(offset, 0)` fails its assertion. -/
theorem C05_elements_wraps (a : Array Nat) (i : Nat) (d : DataOffset)
    (h : GroupSpec a i d 65536) : d.elements = 0 ∧ valuePos d 0 = none := by
  have : d.elements = 0 := by rw [h.elements]
  simp [valuePos, this]

/-! non-vacuity: a concrete sorted array with delta-cycle runs at start, middle and end meets
the hypotheses of every theorem above (the evaluated results are checked by the driver run). -/
example : Sorted #[2, 2, 5, 5, 5, 9] := sorted_of_sortedB _ (by decide)
example : ∃ j, j < (#[2, 2, 5, 5, 5, 9] : Array Nat).size ∧ (#[2, 2, 5, 5, 5, 9] : Array Nat)[j]! ≤ 7 :=
  ⟨2, by decide, by decide⟩
example : ∃ d n, getOffset #[2, 2, 5, 5, 5, 9] 7 = some (some d) ∧ GroupSpec #[2, 2, 5, 5, 5, 9] 7 d n :=
  C05_group _ _ (sorted_of_sortedB _ (by decide)) ⟨2, by decide, by decide⟩

end Wellen.Offset
