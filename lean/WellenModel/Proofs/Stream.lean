import WellenModel.Proofs.Entry
/-!
The payload the encoder builds for one signal inside one block is the concatenation of one chunk per change; the loader decodes it
into exactly those changes, time index = running sum of the deltas, for every number of changes and every signal type
(`stream_decode` and its four instances). The write functions in closed form: `addVcd_vec`, `addVcd_bit`, `addNBit_vec`.
-/
namespace Wellen.Store
open Wellen.Bits

/-- the chunk `add_n_bit_change` / `add_vcd_change` append for a multi-bit change: LEB128(delta << 2 | kind) + packed bytes -/
def encChange (d : Nat) (loc : States) (p : List Nat) : List Nat := lebWrite ((d <<< 2) ||| loc.toNat) ++ p

def encStream (cs : List (Nat × States × List Nat)) : List Nat := (cs.map fun c => encChange c.1 c.2.1 c.2.2).flatten

abbrev Change := Nat × States × List Nat

theorem encChange_ne_nil (x : Change) : encChange x.1 x.2.1 x.2.2 ≠ [] := by simp [encChange, lebWrite_ne_nil]

/-- what the changes mean: running time index, one (de-duplicated) entry per change -/
def replayFixed (bits : Nat) (sigS : States) (cs : List (Nat × States × List Nat)) (last : Nat) (a : Acc) : Nat × Acc :=
  cs.foldl (fun (st : Nat × Acc) c => (st.1 + c.1, st.2.push (st.1 + c.1) (alignEntry sigS c.2.1 bits c.2.2))) (last, a)

/-- a decoder that, chunk by chunk, adds the chunk's delta to the running time index and pushes the chunk's entry, decodes a
stream of chunks into their replay (`cs` comes first so that `α` is known when the other arguments are elaborated) -/
theorem stream_decode {α : Type} (cs : List α) (L : Nat → List Nat → Nat → Acc → Option Acc) (enc1 : α → List Nat)
    (delta : α → Nat) (entry : α → List Nat)
    (hnil : ∀ fuel last a, L (fuel + 1) [] last a = some a)
    (hstep : ∀ x ∈ cs, ∀ fuel rest last a,
      L (fuel + 1) (enc1 x ++ rest) last a = L fuel rest (last + delta x) (a.push (last + delta x) (entry x))) :
    ∀ fuel last a, cs.length < fuel →
    L fuel (cs.map enc1).flatten last a =
      some (cs.foldl (fun (st : Nat × Acc) c => (st.1 + delta c, st.2.push (st.1 + delta c) (entry c))) (last, a)).2 := by
  induction cs with
  | nil => intro fuel last a hf; obtain ⟨f, rfl⟩ := Nat.exists_eq_succ_of_ne_zero (Nat.ne_of_gt hf); exact hnil f last a
  | cons x cs ih =>
    intro fuel last a hf
    obtain ⟨f, rfl⟩ := Nat.exists_eq_succ_of_ne_zero (Nat.ne_of_gt (Nat.zero_lt_of_lt hf))
    obtain ⟨hx, hr⟩ := List.forall_mem_cons.mp hstep
    rw [List.map_cons, List.flatten_cons, hx, ih hr f _ _ (by simpa using hf)]
    rfl

theorem loadFixed_stream (bits : Nat) (hb : bits ≠ 1) (sigS : States) (cs : List (Nat × States × List Nat)) :
    (∀ c ∈ cs, c.2.2.length = divCeil bits c.2.1.bib ∧ ((c.1 <<< 2) ||| c.2.1.toNat) < 2 ^ 32) →
    ∀ (fuel last : Nat) (a : Acc), cs.length < fuel →
      loadFixed bits sigS fuel (encStream cs) last a = some (replayFixed bits sigS cs last a).2 := by
  intro h
  refine stream_decode cs (loadFixed bits sigS) (fun c => encChange c.1 c.2.1 c.2.2) (·.1) (fun c => alignEntry sigS c.2.1 bits c.2.2)
    (fun _ _ _ => by rw [loadFixed, lebRead]) ?_
  rintro ⟨d, loc, p⟩ hx f rest last a
  obtain ⟨hlen, hlt⟩ := h _ hx
  obtain ⟨h2, h3⟩ := shl_or_split d loc.toNat 2 (toNat_lt loc)
  simp only at hlen hlt ⊢
  rw [loadFixed, encChange, List.append_assoc, lebRead_lebWrite]
  simp only [Nat.mod_eq_of_lt hlt, hb, ↓reduceIte, h3, h2, ofNat_toNat]
  rw [← hlen, List.take_left' rfl, List.drop_left' rfl]
  simp only [Nat.lt_irrefl, ↓reduceIte]

theorem chunkHeader_lt (d : Nat) (st : States) (hd : d < 2 ^ 30) : ((d <<< 2) ||| st.toNat) < 2 ^ 32 := by
  have hk := toNat_lt st
  rw [← Nat.shiftLeft_add_eq_or_of_lt hk, Nat.shiftLeft_eq]
  omega

/-- one-bit signals: LEB128(delta << 4 + value) per change -/
def encOneBit (cs : List (Nat × Nat)) : List Nat := (cs.map fun c => lebWrite ((c.1 <<< 4) + c.2)).flatten

def replayOneBit (cs : List (Nat × Nat)) (last : Nat) (a : Acc) : Nat × Acc :=
  cs.foldl (fun (st : Nat × Acc) c => (st.1 + c.1, st.2.push (st.1 + c.1) (oneBitEntry c.2))) (last, a)

theorem loadFixed_stream_onebit (sigS : States) (cs : List (Nat × Nat)) :
    (∀ c ∈ cs, c.2 < 16 ∧ ((c.1 <<< 4) + c.2) < 2 ^ 32) →
    ∀ (fuel last : Nat) (a : Acc), cs.length < fuel →
      loadFixed 1 sigS fuel (encOneBit cs) last a = some (replayOneBit cs last a).2 := by
  intro h
  refine stream_decode cs (loadFixed 1 sigS) (fun c => lebWrite ((c.1 <<< 4) + c.2)) (·.1) (fun c => oneBitEntry c.2)
    (fun _ _ _ => by rw [loadFixed, lebRead]) ?_
  rintro ⟨d, v⟩ hx f rest last a
  obtain ⟨hv, hlt⟩ := h _ hx
  obtain ⟨h2, h1⟩ := shl_or_split d v 4 hv
  rw [← Nat.shiftLeft_add_eq_or_of_lt hv] at h1 h2
  simp only at hlt ⊢
  rw [loadFixed, lebRead_lebWrite]
  simp only [Nat.mod_eq_of_lt hlt, ↓reduceIte, h1, h2]

def encReals (cs : List (Nat × List Nat)) : List Nat := (cs.map fun c => lebWrite c.1 ++ c.2).flatten

def replayPlain (cs : List (Nat × List Nat)) (last : Nat) (a : Acc) : Nat × Acc :=
  cs.foldl (fun (st : Nat × Acc) c => (st.1 + c.1, st.2.push (st.1 + c.1) c.2)) (last, a)

theorem loadReals_stream (cs : List (Nat × List Nat)) :
    (∀ c ∈ cs, c.2.length = 8 ∧ c.1 < 2 ^ 32) →
    ∀ (fuel last : Nat) (a : Acc), cs.length < fuel →
      loadReals fuel (encReals cs) last a = some (replayPlain cs last a).2 := by
  intro h
  refine stream_decode cs loadReals (fun c => lebWrite c.1 ++ c.2) (·.1) (·.2) (fun _ _ _ => by rw [loadReals, lebRead]) ?_
  rintro ⟨d, p⟩ hx f rest last a
  obtain ⟨hlen, hlt⟩ := h _ hx
  simp only at hlen hlt ⊢
  rw [loadReals, List.append_assoc, lebRead_lebWrite]
  simp only [← hlen, List.take_left' rfl, List.drop_left' rfl, Nat.lt_irrefl, ↓reduceIte, Nat.mod_eq_of_lt hlt]

def encStrings (cs : List (Nat × List Nat)) : List Nat := (cs.map fun c => lebWrite c.1 ++ lebWrite c.2.length ++ c.2).flatten

theorem loadStrings_stream (cs : List (Nat × List Nat)) :
    (∀ c ∈ cs, c.1 < 2 ^ 32) →
    ∀ (fuel last : Nat) (a : Acc), cs.length < fuel →
      loadStrings fuel (encStrings cs) last a = some (replayPlain cs last a).2 := by
  intro h
  refine stream_decode cs loadStrings (fun c => lebWrite c.1 ++ lebWrite c.2.length ++ c.2) (·.1) (·.2)
    (fun _ _ _ => by rw [loadStrings, lebRead]) ?_
  rintro ⟨d, p⟩ hx f rest last a
  have hlt := h _ hx
  simp only at hlt ⊢
  rw [loadStrings, List.append_assoc, List.append_assoc, lebRead_lebWrite]
  simp only [lebRead_lebWrite, List.take_left' rfl, List.drop_left' rfl, Nat.lt_irrefl, ↓reduceIte, Nat.mod_eq_of_lt hlt]

theorem length_lt_flatten {α : Type} {f : α → List Nat} (hf : ∀ x, f x ≠ []) (cs : List α) :
    cs.length < (cs.map f).flatten.length + 1 := by
  induction cs with
  | nil => simp
  | cons x r ih =>
    have : 0 < (f x).length := List.length_pos_iff.mpr (hf x)
    simp only [List.map_cons, List.flatten_cons, List.length_append, List.length_cons]
    omega

theorem flatten_map_eq_nil {α : Type} {f : α → List Nat} (hf : ∀ x, f x ≠ []) (cs : List α) :
    (cs.map f).flatten = [] ↔ cs = [] := by
  cases cs with
  | nil => simp
  | cons x r => simp [hf x]

theorem dataBytes_cons {s s' : SigEnc} {ch : List Nat} (h : s'.chunks = ch :: s.chunks) : s'.dataBytes = s.dataBytes ++ ch := by
  simp [SigEnc.dataBytes, h]

/-- the loader `load_signal` dispatches to for a signal type -/
def loaderOf (tpe : SigType) (sigS : States) (fuel : Nat) (data : List Nat) (off : Nat) (a : Acc) : Option Acc :=
  match tpe with
  | .string => loadStrings fuel data off a
  | .real => loadReals fuel data off a
  | .bitvec bits => loadFixed bits sigS fuel data off a

theorem loadStep_eq (tpe : SigType) (maxS : States) (a : Acc) (b : Nat × List Nat × States × Option Nat) :
    loadStep tpe maxS (some a) b =
      match b.2.2.2 with
      | some n => if n < b.2.1.length then none else loaderOf tpe maxS (b.2.1.length + 1) b.2.1 b.1 a
      | none => loaderOf tpe maxS (b.2.1.length + 1) b.2.1 b.1 a := by
  unfold loadStep loaderOf
  cases b.2.2.2 <;> cases tpe <;> rfl

/-- `replayFixed` for any entry function -/
def replayK (entry : Change → List Nat) (cs : List Change) (last : Nat) (a : Acc) : Nat × Acc :=
  cs.foldl (fun (st : Nat × Acc) c => (st.1 + c.1, st.2.push (st.1 + c.1) (entry c))) (last, a)

def absolutise (p : Nat) : List (Nat × States × List Nat) → List (Nat × States × List Nat)
  | [] => []
  | c :: r => (p + c.1, c.2.1, c.2.2) :: absolutise (p + c.1) r

/-- the loader's accumulator after pushing changes given with absolute time indices -/
def replayAbs (bits : Nat) (sigS : States) (xs : List (Nat × States × List Nat)) (a : Acc) : Acc :=
  xs.foldl (fun a x => a.push x.1 (alignEntry sigS x.2.1 bits x.2.2)) a

def replayAbsK (entry : Change → List Nat) (xs : List Change) (a : Acc) : Acc :=
  xs.foldl (fun a x => a.push x.1 (entry x)) a

theorem replayK_abs (entry : Change → List Nat) (ht : ∀ k1 k2 p, entry (k1, p) = entry (k2, p)) (cs : List Change)
    (last : Nat) (a : Acc) : (replayK entry cs last a).2 = replayAbsK entry (absolutise last cs) a := by
  induction cs generalizing last a with
  | nil => rfl
  | cons x cs ih =>
    simp only [replayK, List.foldl_cons, absolutise, replayAbsK]
    rw [show entry x = entry (last + x.1, x.2.1, x.2.2) from ht x.1 (last + x.1) x.2]
    exact ih (last + x.1) _

theorem replayFixed_abs (bits : Nat) (sigS : States) (cs : List Change) (last : Nat) (a : Acc) :
    (replayFixed bits sigS cs last a).2 = replayAbs bits sigS (absolutise last cs) a :=
  replayK_abs (fun x => alignEntry sigS x.2.1 bits x.2.2) (fun _ _ _ => rfl) cs last a

/-- the value characters of a VCD vector token: a `b` / `B` prefix and a leading `0b` are dropped -/
def vcdBits : List Nat → List Nat
  | [] => []
  | c0 :: rest =>
    let vb := if c0 = 98 ∨ c0 = 66 then rest else c0 :: rest
    if vb.length ≤ 2 then vb else (if vb.take 2 = [48, 98] then vb.drop 2 else vb)

/-- **`add_vcd_change` on a vector signal**: the kind is that of the token's characters, the token is brought to the signal's
width, and one chunk is appended -/
theorem addVcd_vec {ti : Nat} {value : List Nat} {realLe : Option (List Nat)} {s s' : SigEnc} {bits : Nat}
    (ht : s.tpe = .bitvec bits) (hb : bits ≠ 1) (h : addVcd ti value realLe s = some s') :
    ∃ st chars nums, checkStates (vcdBits value) = some st ∧
      (if (vcdBits value).length = bits then some (vcdBits value) else expandSpecial (vcdBits value) bits) = some chars ∧
      charsToNums chars = some nums ∧
      s' = { s with chunks := encChange (ti - s.prevTimeIdx) st (writeNState st nums none) :: s.chunks, prevTimeIdx := ti,
                    maxStates := States.join s.maxStates st } := by
  cases value with
  | nil => cases h
  | cons c0 rest =>
    -- the `vb` that `addVcd` computes is `vcdBits (c0 :: rest)` unfolded
    simp only [addVcd, ht, hb, ↓reduceIte] at h
    split at h
    · cases h
    · rename_i st hst
      split at h
      · cases h
      · rename_i chars hch
        split at h
        · cases h
        · rename_i nums hn
          exact ⟨st, chars, nums, hst, hch, hn, by cases h; rw [ht]; rfl⟩

/-- … and on a one-bit signal: the first value character is the value -/
theorem addVcd_bit {ti : Nat} {value : List Nat} {realLe : Option (List Nat)} {s s' : SigEnc}
    (ht : s.tpe = .bitvec 1) (h : addVcd ti value realLe s = some s') :
    ∃ c r bv, vcdBits value = c :: r ∧ bitCharToNum c = some bv ∧
      s' = { s with chunks := lebWrite (((ti - s.prevTimeIdx) <<< 4) + bv) :: s.chunks, prevTimeIdx := ti,
                    maxStates := States.join s.maxStates (States.fromValue bv) } := by
  cases value with
  | nil => cases h
  | cons c0 rest =>
    simp only [addVcd, ht, ↓reduceIte] at h
    split at h
    · cases h
    · rename_i c r hvb
      split at h
      · cases h
      · rename_i bv hc
        exact ⟨c, r, bv, hvb, hc, by cases h; rw [ht]⟩

/-- **`add_n_bit_change` on a vector signal**: of the pre-encoded value the last ceil(bits / symbols per byte) bytes count; they are
stored in their smallest kind, re-packed if that is not the kind they came in -/
theorem addNBit_vec {ti : Nat} {value : List Nat} {st : States} {s s' : SigEnc} {bits : Nat}
    (ht : s.tpe = .bitvec bits) (hb : bits ≠ 1) (h : addNBit ti value st s = some s') :
    ∃ v, v = value.drop (value.length - divCeil bits st.bib) ∧ v.length = divCeil bits st.bib ∧
      s' = { s with chunks := encChange (ti - s.prevTimeIdx) (checkMinState v st)
                      (if checkMinState v st = st then v else compressTemplate v st (checkMinState v st) bits) :: s.chunks,
                    prevTimeIdx := ti, maxStates := States.join s.maxStates st } := by
  unfold addNBit at h
  simp only [ht, hb, ↓reduceIte] at h
  split at h
  · cases h
  · cases h
    exact ⟨_, rfl, by rw [List.length_drop]; omega, by rw [ht]; rfl⟩

end Wellen.Store
