import WellenModel.Proofs.Stream
/-!
Block level. The offset table `finish_block` writes lets `Block::get_offset_and_length` cut every signal's bytes back out of the
block data; the meta word in front of them decodes to the signal's widest kind and a sufficient length bound. Together
(`loadSignal_blocks`): whatever else the blocks hold and whatever was compressed, `load_signal` runs the signal type's stream
decoder over the data the signal's encoder held when each block was finished. The one-block and many-block statements per
signal type are corollaries.
-/
namespace Wellen.Store
open Wellen.Bits

/-- offsets of the payloads `ds` laid out one after the other, starting at offset `k` -/
def layoutOffsets (k : Nat) : List (Option (List Nat)) → List (Option Nat)
  | [] => []
  | none :: r => none :: layoutOffsets k r
  | some d :: r => some k :: layoutOffsets (k + d.length) r

def layoutData (ds : List (Option (List Nat))) : List Nat := (ds.filterMap id).flatten

theorem layoutOffsets_length (k : Nat) (ds : List (Option (List Nat))) : (layoutOffsets k ds).length = ds.length := by
  induction ds generalizing k with
  | nil => rfl
  | cons d r ih => cases d <;> simp [layoutOffsets, ih]

/-- the first offset handed out from `k` on is `k` itself; when no signal has data, that is also where the data ends -/
theorem next_offset (ds : List (Option (List Nat))) (k : Nat) :
    ((layoutOffsets k ds).findSome? fun o => o).getD (k + (layoutData ds).length) = k := by
  induction ds with
  | nil => rfl
  | cons d r ih =>
    cases d with
    | none => exact ih
    | some y => rfl

theorem layoutOffsets_ge (k : Nat) (ds : List (Option (List Nat))) : ∀ o, (layoutOffsets k ds).findSome? (fun o => o) = some o → k ≤ o := by
  intro o h
  have := next_offset ds k
  rw [h] at this
  exact Nat.le_of_eq this.symm

theorem layout_slice {ds : List (Option (List Nat))} (k : Nat) {i : Nat} {d : List Nat} (h : ds[i]? = some (some d)) :
    ∃ p, (layoutOffsets k ds)[i]? = some (some (k + p)) ∧
      let next := (((layoutOffsets k ds).drop (i + 1)).findSome? (fun o => o)).getD (k + (layoutData ds).length)
      ((layoutData ds).drop p).take (next - (k + p)) = d := by
  induction ds generalizing k i with
  | nil => cases h
  | cons x r ih =>
    cases i with
    | zero =>
      cases (Option.some.inj h)
      refine ⟨0, rfl, ?_⟩
      show (d ++ layoutData r).take
        (((layoutOffsets (k + d.length) r).findSome? fun o => o).getD (k + (d ++ layoutData r).length) - k) = d
      rw [List.length_append, ← Nat.add_assoc, next_offset, Nat.add_sub_cancel_left, List.take_left' rfl]
    | succ i =>
      cases x with
      | none => exact ih k h
      | some y =>
        obtain ⟨p, h1, h3⟩ := ih (k + y.length) h
        refine ⟨y.length + p, Nat.add_assoc .. ▸ h1, ?_⟩
        show ((y ++ layoutData r).drop (y.length + p)).take
          ((((layoutOffsets (k + y.length) r).drop (i + 1)).findSome? fun o => o).getD (k + (y ++ layoutData r).length) -
            (k + (y.length + p))) = d
        rwa [List.length_append, ← Nat.add_assoc, ← Nat.add_assoc, List.drop_length_add_append]

theorem layoutOffsets_none {ds : List (Option (List Nat))} (k : Nat) {i : Nat} (h : ds[i]? = some none) :
    (layoutOffsets k ds)[i]? = some none := by
  induction ds generalizing k i with
  | nil => cases h
  | cons x r ih =>
    cases i with
    | zero => cases Option.some.inj h; rfl
    | succ i =>
      cases x with
      | none => exact ih k h
      | some y => exact ih (k + y.length) h

/-- the loop of `finish_block` computes exactly this layout, and finishes every encoder -/
theorem finishStep_foldl (c : Codec) (l : List SigEnc) (acc : Array SigEnc × List (Option Nat) × List (List Nat) × Nat) :
    let r := l.foldl (finishStep c) acc
    let ds := l.map fun s => (finishSignal c s).2
    r.1.toList = acc.1.toList ++ l.map (fun s => (finishSignal c s).1) ∧
    r.2.1 = (layoutOffsets acc.2.2.2 ds).reverse ++ acc.2.1 ∧
    r.2.2.1 = (ds.filterMap id).reverse ++ acc.2.2.1 := by
  induction l generalizing acc with
  | nil => simp [layoutOffsets]
  | cons s l ih =>
    simp only [List.foldl_cons, List.map_cons]
    have h := ih (finishStep c acc s)
    simp only at h
    cases hf : finishSignal c s with
    | mk s' od =>
      cases od <;>
      · simp only [finishStep, hf] at h ⊢
        simp only [layoutOffsets, List.filterMap_cons, id, List.reverse_cons, List.append_assoc, List.singleton_append,
          Array.toList_push] at h ⊢
        exact h

theorem finishSignals_layout (c : Codec) (signals : Array SigEnc) :
    let ds := signals.toList.map fun s => (finishSignal c s).2
    (finishSignals c signals).1.toList = signals.toList.map (fun s => (finishSignal c s).1) ∧
    (finishSignals c signals).2.1 = layoutOffsets 0 ds ∧ (finishSignals c signals).2.2 = layoutData ds := by
  simp only [finishSignals]
  rw [← Array.foldl_toList]
  have h := finishStep_foldl c signals.toList (#[], [], [], 0)
  simp only at h
  rw [h.1, h.2.1, h.2.2]
  simp [layoutData]

/-- `get_offset_and_length` finds every signal's payload in the block `finish_block` builds -/
theorem block_slice (c : Codec) (signals : Array SigEnc) (i : Nat) (d : List Nat)
    (hd : (signals.toList.map fun s => (finishSignal c s).2)[i]? = some (some d)) :
    let r := finishSignals c signals
    let b : Block := { startTime := 0, timeTable := [], offsets := r.2.1, data := r.2.2 }
    ∃ off len, b.offsetAndLength i = some (off, len) ∧ (b.data.drop off).take len = d := by
  obtain ⟨_, h1, h2⟩ := finishSignals_layout c signals
  obtain ⟨o, ho, hs⟩ := layout_slice 0 hd
  simp only [Nat.zero_add] at h1 h2 ho hs ⊢
  generalize (signals.toList.map fun s => (finishSignal c s).2) = ds at h1 h2 ho hs
  refine ⟨o, ((List.findSome? (fun o => o) (List.drop (i + 1) (layoutOffsets 0 ds))).getD (layoutData ds).length) - o, ?_, ?_⟩
  · simp only [Block.offsetAndLength, h1, h2]
    rw [List.getD_eq_getElem?_getD, ho]
    rfl
  · rw [h2]
    exact hs

theorem meta_roundtrip_plain (s : Bits.States) : metaDecode (metaEncode s none) = some (s, none) := by
  cases s <;> decide

/-- a compressed payload of `l` bytes: the decoder learns the kind and a length bound that is at least `l` (the uncompressed
length rounded up to a multiple of 32), provided the rounded length / 32 fits 32 bits -/
theorem meta_roundtrip_compressed (s : Bits.States) (l : Nat) (hl : Bits.divCeil l 32 < 2 ^ 32) :
    metaDecode (metaEncode s (some l)) = some (s, some (Bits.divCeil l 32 * 32)) ∧ l ≤ Bits.divCeil l 32 * 32 := by
  refine ⟨?_, (Bits.divCeil_window l 32 (by decide)).1⟩
  -- the word is ((len/32 << 1 | 1) << 2) | kind: two fields below a shifted number
  have h4 : ∀ x : Nat, (x <<< 3) ||| 4 = ((x <<< 1) ||| 1) <<< 2 := fun x => by
    rw [Nat.shiftLeft_or_distrib, ← Nat.shiftLeft_add]; rfl
  obtain ⟨a1, a2⟩ := Bits.shl_or_split ((Bits.divCeil l 32 <<< 1) ||| 1) s.toNat 2 (toNat_lt s)
  obtain ⟨b1, b2⟩ := Bits.shl_or_split (Bits.divCeil l 32) 1 1 (by decide)
  simp only [metaEncode, metaDecode, h4,
    Bits.divCeil_eq (Bits.divCeil l 32 * 32) 32 (Bits.divCeil l 32) (Nat.le_refl _) (Nat.lt_add_of_pos_right (by decide))]
  rw [show (3 : Nat) = 2 ^ 2 - 1 from rfl, a2, ofNat_toNat,
    show ∀ x : Nat, x >>> 3 = x >>> 2 >>> 1 from fun x => by rw [← Nat.shiftRight_add],
    a1, show (1 : Nat) = 2 ^ 1 - 1 from rfl, b2, b1]
  simp [Nat.mod_eq_of_lt hl]

/-- one block of a store: the per-signal encoders it was finished from and its time table -/
structure BlockDesc where
  signals : Array SigEnc
  tt : List Nat
  t0 : Nat

def mkBlock (c : Codec) (d : BlockDesc) : Block :=
  let r := finishSignals c d.signals
  { startTime := d.t0, timeTable := d.tt, offsets := r.2.1, data := r.2.2 }

theorem block_no_data (c : Codec) {d : BlockDesc} {i : Nat} {s : SigEnc} (hs : d.signals.toList[i]? = some s)
    (he : s.dataBytes = []) : (mkBlock c d).offsetAndLength i = none := by
  have hfin : (finishSignal c s).2 = none := by simp [finishSignal, he]
  obtain ⟨_, h1, _⟩ := finishSignals_layout c d.signals
  have hd : (d.signals.toList.map fun s => (finishSignal c s).2)[i]? = some none := by
    rw [List.getElem?_map, hs]; exact congrArg some hfin
  have := layoutOffsets_none 0 hd
  simp only [mkBlock, Block.offsetAndLength, h1]
  rw [List.getD_eq_getElem?_getD, this]
  rfl

/-- the decoded compression field of a block's meta word -/
def compOf (c : Codec) (data : List Nat) : Option Nat :=
  if data.length < c.minSize then none else if c.wantCompress data then some (divCeil data.length 32 * 32) else none

/-- what `SignalEncoder::finish` hands to `finish_block` for a signal with data: the meta word, then the data (compress = id in the
model); the word decodes to the signal's widest kind and the compression field `compOf` -/
theorem finishSignal_payload (c : Codec) (s : SigEnc) (hne : s.dataBytes ≠ []) :
    ∃ m, (finishSignal c s).2 = some (lebWrite m ++ s.dataBytes) ∧
      (divCeil s.dataBytes.length 32 < 2 ^ 32 → metaDecode m = some (s.maxStates, compOf c s.dataBytes)) := by
  have : s.dataBytes.isEmpty = false := by simpa using hne
  unfold finishSignal compOf
  by_cases h1 : s.dataBytes.length < c.minSize
  · simp only [this, h1, Bool.false_eq_true, ↓reduceIte]
    exact ⟨_, rfl, fun _ => meta_roundtrip_plain _⟩
  · by_cases h2 : c.wantCompress s.dataBytes = true
    · simp only [this, h1, h2, Bool.false_eq_true, ↓reduceIte]
      exact ⟨_, rfl, fun hlen => (meta_roundtrip_compressed _ _ hlen).1⟩
    · simp only [this, h1, h2, Bool.false_eq_true, ↓reduceIte]
      exact ⟨_, rfl, fun _ => meta_roundtrip_plain _⟩

theorem block_with_data (c : Codec) {d : BlockDesc} {i : Nat} {s : SigEnc} (hs : d.signals.toList[i]? = some s)
    (hne : s.dataBytes ≠ []) :
    ∃ off len m, (mkBlock c d).offsetAndLength i = some (off, len) ∧
      ((mkBlock c d).data.drop off).take len = lebWrite m ++ s.dataBytes ∧
      (divCeil s.dataBytes.length 32 < 2 ^ 32 → metaDecode m = some (s.maxStates, compOf c s.dataBytes)) := by
  obtain ⟨m, hfin, hdec⟩ := finishSignal_payload c s hne
  obtain ⟨off, len, ho, hsl⟩ := block_slice c d.signals i _ (by rw [List.getElem?_map, hs]; exact congrArg some hfin)
  exact ⟨off, len, m, ho, hsl, hdec⟩

theorem compOf_cases (c : Codec) (data : List Nat) :
    compOf c data = none ∨ compOf c data = some (divCeil data.length 32 * 32) := by
  unfold compOf; split
  · exact .inl rfl
  · split
    · exact .inr rfl
    · exact .inl rfl

/-- the compression decision does not matter to the loader: the length bound decoded from the meta word is large enough -/
theorem loadStep_compOf (c : Codec) (tpe : SigType) (sigS ms : States) (off : Nat) (data : List Nat) (a : Acc) :
    loadStep tpe sigS (some a) (off, data, ms, compOf c data) = loaderOf tpe sigS (data.length + 1) data off a := by
  have hge := Nat.not_lt.mpr (divCeil_window data.length 32 (by decide)).1
  rw [loadStep_eq]
  rcases compOf_cases c data with h | h <;> simp only [h, hge, ↓reduceIte]

/-- one block of a store, the encoder of the signal in it, and the changes that encoder recorded -/
abbrev BInfo := BlockDesc × SigEnc × List Change

/-- what is known about signal `i` in one block: its encoder, and the changes whose chunk stream it recorded (possibly none) -/
def SigInBlock (bits i : Nat) (p : BlockDesc × SigEnc × List Change) : Prop :=
  p.1.signals.toList[i]? = some p.2.1 ∧ p.2.1.dataBytes = encStream p.2.2 ∧
  (∀ x ∈ p.2.2, x.2.2.length = divCeil bits x.2.1.bib ∧ ((x.1 <<< 2) ||| x.2.1.toNat) < 2 ^ 32) ∧
  divCeil p.2.1.dataBytes.length 32 < 2 ^ 32

/-- the meta data `collect_signal_meta_data` gathers: one entry per block in which the signal has data -/
def metasOf (c : Codec) : List (BlockDesc × SigEnc × List Change) → Nat → List (Nat × List Nat × States × Option Nat)
  | [], _ => []
  | p :: r, off =>
    (if p.2.2 = [] then [] else [(off, p.2.1.dataBytes, p.2.1.maxStates, compOf c p.2.1.dataBytes)]) ++
      metasOf c r (off + p.1.tt.length)

/-- the widest kind over the blocks in which the signal has data -/
def joinedStates (c : Codec) (l : List (BlockDesc × SigEnc × List Change)) : States :=
  joinAll ((metasOf c l 0).map (fun b => b.2.2.1))

/-- the block level's view of signal `i` in block `p.1`: its encoder is `p.2.1`; of the changes `p.2.2` only whether there are any -/
def InBlock (i : Nat) (p : BInfo) : Prop :=
  p.1.signals.toList[i]? = some p.2.1 ∧ (p.2.2 = [] ↔ p.2.1.dataBytes = []) ∧ divCeil p.2.1.dataBytes.length 32 < 2 ^ 32

theorem collectMeta_blocks (c : Codec) {i : Nat} {l : List BInfo} (h : ∀ p ∈ l, InBlock i p)
    (off : Nat) (acc : List (Nat × List Nat × States × Option Nat)) :
    collectMeta.go i (l.map fun p => mkBlock c p.1) off acc = some (acc.reverse ++ metasOf c l off) := by
  induction l generalizing off acc with
  | nil => simp [collectMeta.go, metasOf]
  | cons p r ih =>
    obtain ⟨⟨hs, hdata, hlen⟩, hr⟩ := List.forall_mem_cons.mp h
    simp only [List.map_cons, collectMeta.go, show (mkBlock c p.1).timeTable = p.1.tt from rfl]
    by_cases he : p.2.2 = []
    · rw [block_no_data c hs (hdata.mp he), ih hr _ acc]
      simp [metasOf, he]
    · obtain ⟨o, len, m, ho, hsl, hdec⟩ := block_with_data c hs fun h => he (hdata.mpr h)
      simp only [ho, hsl, lebRead_lebWrite, hdec hlen]
      rw [ih hr _ _]
      simp [metasOf, he]

/-- the signal type's stream decoder run over the data of the blocks that hold some; the time indices of a block start
where the earlier blocks' time tables end -/
def loadBlocks (tpe : SigType) (sigS : States) : List BInfo → Nat → Acc → Option Acc
  | [], _, a => some a
  | p :: r, off, a =>
    if p.2.2 = [] then loadBlocks tpe sigS r (off + p.1.tt.length) a
    else (loaderOf tpe sigS (p.2.1.dataBytes.length + 1) p.2.1.dataBytes off a).bind (loadBlocks tpe sigS r (off + p.1.tt.length))

theorem foldl_loadStep_none {tpe : SigType} {sigS : States} {ms : List (Nat × List Nat × States × Option Nat)} :
    ms.foldl (loadStep tpe sigS) none = none := by
  induction ms with
  | nil => rfl
  | cons m r ih => exact ih

theorem fold_metas_blocks (c : Codec) (tpe : SigType) (sigS : States) (l : List BInfo) (off : Nat) (a : Acc) :
    (metasOf c l off).foldl (loadStep tpe sigS) (some a) = loadBlocks tpe sigS l off a := by
  induction l generalizing off a with
  | nil => rfl
  | cons p r ih =>
    simp only [metasOf, loadBlocks]
    split
    · exact ih _ a
    · simp only [List.cons_append, List.nil_append, List.foldl_cons, loadStep_compOf]
      cases loaderOf tpe sigS (p.2.1.dataBytes.length + 1) p.2.1.dataBytes off a with
      | none => exact foldl_loadStep_none
      | some a' => exact ih _ a'

/-- **blocks are transparent**: offsets, meta words and compression decisions aside, `load_signal` runs the signal type's stream
decoder over the data the signal's encoder held when each block was finished — for any number of blocks, each finished from its
own set of encoders -/
theorem loadSignal_blocks (c : Codec) (tpe : SigType) (i : Nat) (l : List BInfo) (h : ∀ p ∈ l, InBlock i p) :
    loadSignal { blocks := l.map fun p => mkBlock c p.1 } i tpe =
      (loadBlocks tpe (joinedStates c l) l 0 {}).map fun a =>
        { maxStates := joinedStates c l, times := a.timesRev.reverse, entries := a.entriesRev.reverse } := by
  have hgo := collectMeta_blocks c h 0 []
  simp only [List.reverse_nil, List.nil_append] at hgo
  simp only [loadSignal, collectMeta, hgo]
  rw [show joinAll ((metasOf c l 0).map fun b => b.2.2.1) = joinedStates c l from rfl, fold_metas_blocks]
  cases loadBlocks tpe (joinedStates c l) l 0 {} <;> rfl

def replayBlocksE (entry : Change → List Nat) : List BInfo → Nat → Acc → Acc
  | [], _, a => a
  | p :: r, off, a => replayBlocksE entry r (off + p.1.tt.length) (replayK entry p.2.2 off a).2

theorem loadBlocks_replay (tpe : SigType) (sigS : States) (entry : Change → List Nat) (l : List BInfo)
    (h : ∀ p ∈ l, ∀ off a,
      loaderOf tpe sigS (p.2.1.dataBytes.length + 1) p.2.1.dataBytes off a = some (replayK entry p.2.2 off a).2)
    (off : Nat) (a : Acc) : loadBlocks tpe sigS l off a = some (replayBlocksE entry l off a) := by
  induction l generalizing off a with
  | nil => rfl
  | cons p r ih =>
    obtain ⟨hp, hr⟩ := List.forall_mem_cons.mp h
    simp only [loadBlocks, replayBlocksE]
    split
    · rename_i he; rw [he]; exact ih hr _ a
    · rw [hp]; exact ih hr _ _

/-- `replayBlocksE` at the entry of a multi-bit signal, as `C04_multi_block_load` states it -/
def replayBlocks (bits : Nat) (sigS : States) : List (BlockDesc × SigEnc × List Change) → Nat → Acc → Acc
  | [], _, a => a
  | p :: r, off, a => replayBlocks bits sigS r (off + p.1.tt.length) (replayFixed bits sigS p.2.2 off a).2

theorem replayBlocks_eq (bits : Nat) (sigS : States) (l : List BInfo) (off : Nat) (a : Acc) :
    replayBlocks bits sigS l off a = replayBlocksE (fun x => alignEntry sigS x.2.1 bits x.2.2) l off a := by
  induction l generalizing off a with
  | nil => rfl
  | cons p r ih => exact ih _ _

/-- one block, any signal type: when the type's stream decoder turns the chunk stream of `cs` into `a`, the signal is loaded
as `a`, whatever shares the block and whatever the compression decision -/
theorem loadSignal_one {α : Type} (c : Codec) (tpe : SigType) {signals : Array SigEnc} {i : Nat} {s : SigEnc} (tt : List Nat)
    (t0 : Nat) {cs : List α} {enc1 : α → List Nat} (hf : ∀ x, enc1 x ≠ []) {a : Acc}
    (hs : signals.toList[i]? = some s) (hdata : s.dataBytes = (cs.map enc1).flatten) (hne : cs ≠ [])
    (hlen : divCeil (cs.map enc1).flatten.length 32 < 2 ^ 32)
    (hload : ∀ fuel, cs.length < fuel → loaderOf tpe s.maxStates fuel (cs.map enc1).flatten 0 {} = some a) :
    let r := finishSignals c signals
    let b : Block := { startTime := t0, timeTable := tt, offsets := r.2.1, data := r.2.2 }
    loadSignal { blocks := [b] } i tpe =
      some { maxStates := s.maxStates, times := a.timesRev.reverse, entries := a.entriesRev.reverse } := by
  -- any non-empty change list will do: `InBlock` only asks whether there are changes
  refine (loadSignal_blocks c tpe i [(⟨signals, tt, t0⟩, s, [(0, .two, [])])] ?_).trans ?_
  · intro p hp; rw [List.mem_singleton] at hp; subst hp
    exact ⟨hs, by simpa [hdata, flatten_map_eq_nil hf] using hne, hdata ▸ hlen⟩
  · rw [show joinedStates c [((⟨signals, tt, t0⟩ : BlockDesc), s, [((0 : Nat), States.two, ([] : List Nat))])] = s.maxStates from rfl]
    rw [loadBlocks, if_neg (by simp), hdata, hload _ (length_lt_flatten hf cs)]
    rfl

end Wellen.Store
