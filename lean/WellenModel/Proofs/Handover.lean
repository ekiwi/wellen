import WellenModel.Model.VcdBody
/-!
# One byte of `parse_body`: stop position, position count, earlier events

`step` is opened for two facts of different kind (and once more in `step_exit_iff`, for the one branch that records a timestamp):
* `step_some`: a stop position acts through one test only (`exits`);
* `step_frame`: without stop position the step is a function of the lexical part of the state and the byte; it puts what it
  records in front of the events so far, counts the position and never exits.
What is said about stop positions, positions and earlier events — here, in `VcdStop.lean` and for the hand-over between parser
threads (C03) — follows from these two.
-/
namespace Wellen.VcdBody

/-- the hand-over test of `parse_body`: a complete timestamp token, in the position of a first token, whose first byte lies
behind position `s + 1` (with `s` the last position of a worker's chunk: behind the next worker's first byte) -/
def exits (s : Nat) (m : M) (b : Nat) : Prop :=
  m.st = .first ∧ isWs b = true ∧ m.first ≠ [] ∧ (∃ t, parseFirst m.first.reverse = .time t) ∧
    m.pos - m.first.reverse.length - 1 > s

instance exits.decidable (s : Nat) (m : M) (b : Nat) : Decidable (exits s m b) :=
  have : Decidable (∃ t, parseFirst m.first.reverse = .time t) :=
    match parseFirst m.first.reverse with
    | .time t => isTrue ⟨t, rfl⟩
    | .oneBit | .multiBit | .commentStart | .ignored | .bad => isFalse nofun
  inferInstanceAs (Decidable (_ ∧ _ ∧ _ ∧ _ ∧ _))

theorem step_some (s : Nat) (m : M) (b : Nat) :
    step (some s) m b = if exits s m b then .exit m.evs.reverse else step none m b := by
  split
  · rename_i hx
    obtain ⟨hst, hw, he, ⟨t, hp⟩, hpos⟩ := hx
    simp only [step, hst, hw, he, hp, decide_eq_true hpos, List.isEmpty_iff, ↓reduceIte]
  · rename_i hx
    unfold step
    cases hst : m.st with
    | first =>
      simp only
      cases hw : isWs b with
      | false => rfl
      | true =>
        simp only [↓reduceIte]
        cases he : m.first.isEmpty with
        | true => rfl
        | false =>
          simp only [Bool.false_eq_true, ↓reduceIte]
          cases hp : parseFirst m.first.reverse with
          | time t =>
            have : ¬ (m.pos - m.first.reverse.length - 1 > s) :=
              fun h => hx ⟨hst, hw, by simpa using he, ⟨t, hp⟩, h⟩
            simp only [decide_eq_false this, Bool.false_eq_true, ↓reduceIte]
          | _ => rfl
    | _ => rfl

theorem step_none_of_some {s : Nat} {m : M} {b : Nat} {r : StepRes} (h : step (some s) m b = r) (hr : ∀ e, r ≠ .exit e) :
    step none m b = r := by
  rw [step_some] at h
  split at h
  · exact absurd h.symm (hr _)
  · exact h

theorem step_cont_none (s : Nat) (m m' : M) (b : Nat) (h : step (some s) m b = .cont m') : step none m b = .cont m' :=
  step_none_of_some h nofun

theorem step_error_none (s : Nat) (m : M) (b : Nat) (e : List Ev) (h : step (some s) m b = .error e) :
    step none m b = .error e :=
  step_none_of_some h nofun

theorem step_frame (m : M) (b : Nat) :
    step none m b =
      match step none { m with evs := [], pos := 0 } b with
      | .cont m' => .cont { m' with evs := m'.evs ++ m.evs, pos := m.pos + 1 }
      | _ => .error m.evs.reverse := by
  -- each branch of `step` is reached by rewriting with its conditions, where both sides compute to the same term;
  -- `unfold step` followed by `split`s is three times as dear to check
  obtain ⟨st, f, i, evs, pos⟩ := m
  cases st
  · by_cases hb : b = 10 <;> simp only [step, hb, ↓reduceIte] <;> rfl
  · cases hw : isWs b
    · simp only [step, hw, Bool.false_eq_true, ↓reduceIte]; rfl
    · cases he : f.isEmpty
      · cases hp : parseFirst f.reverse <;> simp only [step, hw, he, hp, Bool.false_eq_true, ↓reduceIte] <;> rfl
      · simp only [step, hw, he, ↓reduceIte]; rfl
  · cases hw : isWs b
    · simp only [step, hw, Bool.false_eq_true, ↓reduceIte]; rfl
    · cases he : i.isEmpty <;> simp only [step, hw, he, Bool.false_eq_true, ↓reduceIte] <;> rfl
  · cases hw : isWs b
    · simp only [step, hw, Bool.false_eq_true, ↓reduceIte]; rfl
    · cases he : f.isEmpty
      · by_cases hk : f.reverse = kwEnd <;> simp only [step, hw, he, hk, Bool.false_eq_true, ↓reduceIte] <;> rfl
      · simp only [step, hw, he, ↓reduceIte]; rfl

theorem step_pos {m m' : M} {b : Nat} (h : step none m b = .cont m') : m'.pos = m.pos + 1 := by
  rw [step_frame] at h
  split at h <;> cases h
  rfl

theorem step_none_ne_exit (m : M) (b : Nat) (e : List Ev) : step none m b ≠ .exit e := by
  rw [step_frame]
  split <;> nofun

/-- an exit means that the test `exits` held (one direction only; the other is `step_some`), it reports the events so far, and the
parser without stop position would have recorded the timestamp -/
theorem step_exit_iff (s : Nat) (m : M) (b : Nat) (e : List Ev) (h : step (some s) m b = .exit e) :
    e = m.evs.reverse ∧ m.st = .first ∧ isWs b = true ∧ m.first ≠ [] ∧
    (∃ t, parseFirst m.first.reverse = .time t ∧
      step none m b = .cont { m with pos := m.pos + 1, evs := .time t :: m.evs, first := [] }) ∧
    m.pos - m.first.reverse.length - 1 > s := by
  rw [step_some] at h
  split at h
  · rename_i hx
    obtain ⟨hst, hw, he, ⟨t, hp⟩, hpos⟩ := hx
    cases h
    exact ⟨rfl, hst, hw, he, ⟨t, hp, by simp [step, hst, hw, he, hp]⟩, hpos⟩
  · exact absurd h (step_none_ne_exit m b e)

/-- running on top of earlier events `E` (newest first, as `evs` is kept), at another position -/
def lift (E : List Ev) (k : Nat) (m : M) : M := { m with evs := m.evs ++ E, pos := m.pos + k }

def liftRes (E : List Ev) (k : Nat) : StepRes → StepRes
  | .cont m => .cont (lift E k m)
  | .exit e => .exit (E.reverse ++ e)
  | .error e => .error (E.reverse ++ e)

def liftOut (E : List Ev) : Out → Out
  | .ok e => .ok (E.reverse ++ e)
  | .err e => .err (E.reverse ++ e)

/-- the parser without stop position looks neither at positions nor at the events so far -/
theorem step_lift (E : List Ev) (k : Nat) (m : M) (b : Nat) :
    step none (lift E k m) b = liftRes E k (step none m b) := by
  rw [step_frame (lift E k m), step_frame m]
  simp only [lift]
  cases step none { m with evs := [], pos := 0 } b <;> simp [liftRes, lift, Nat.add_right_comm]

theorem exits_lift (E : List Ev) (k s : Nat) (m : M) (b : Nat) : exits (s + k) (lift E k m) b ↔ exits s m b := by
  have : m.pos + k - m.first.reverse.length - 1 > s + k ↔ m.pos - m.first.reverse.length - 1 > s := by omega
  simp only [exits, lift, this]

/-- … and with a stop position, only at the position relative to it -/
theorem step_lift_stop (E : List Ev) (k : Nat) (stop : Option Nat) (m : M) (b : Nat) :
    step (stop.map (· + k)) (lift E k m) b = liftRes E k (step stop m b) := by
  cases stop with
  | none => exact step_lift E k m b
  | some s =>
    simp only [Option.map_some, step_some, exits_lift, step_lift]
    split <;> simp [liftRes, lift]

theorem flush_lift (E : List Ev) (k : Nat) (m : M) : flush (lift E k m) = liftOut E (flush m) := by
  unfold flush lift liftOut
  cases m.st <;> simp only []
  · simp
  · split
    · simp
    · cases parseFirst m.first.reverse <;> simp
  · simp
  · simp

/-- `step` along a byte string: the machine state after the last byte, or the exit / error of the first byte that does not continue.
`run` is `runM` followed by `flush` (`run_eq_flush`), and an input cut in two is run through the state in between (`run_append`) -/
def runM (stop : Option Nat) (m : M) : List Nat → StepRes
  | [] => .cont m
  | b :: bs => match step stop m b with
    | .cont m' => runM stop m' bs
    | r => r

theorem run_append (stop : Option Nat) (bs2 : List Nat) : ∀ (bs1 : List Nat) (m : M),
    run stop m (bs1 ++ bs2) = match runM stop m bs1 with
      | .cont m' => run stop m' bs2
      | .exit e => .ok e
      | .error e => .err e
  | [], _ => rfl
  | b :: bs, m => by
    simp only [List.cons_append, run, runM]
    cases step stop m b with
    | cont m' => exact run_append stop bs2 bs m'
    | exit e => rfl
    | error e => rfl

theorem run_eq_flush (stop : Option Nat) (bs : List Nat) (m : M) :
    run stop m bs = match runM stop m bs with
      | .cont m' => flush m'
      | .exit e => .ok e
      | .error e => .err e := by
  have h := run_append stop [] bs m
  rwa [List.append_nil] at h

theorem runM_lift_stop (E : List Ev) (k : Nat) (stop : Option Nat) : ∀ (bs : List Nat) (m : M),
    runM (stop.map (· + k)) (lift E k m) bs = liftRes E k (runM stop m bs)
  | [], _ => rfl
  | b :: r, m => by
    simp only [runM, step_lift_stop]
    cases step stop m b with
    | cont m' => exact runM_lift_stop E k stop r m'
    | exit e => rfl
    | error e => rfl

theorem runM_lift (E : List Ev) (k : Nat) : ∀ (bs : List Nat) (m : M),
    runM none (lift E k m) bs = liftRes E k (runM none m bs) :=
  runM_lift_stop E k none

theorem run_lift_stop (E : List Ev) (k : Nat) (stop : Option Nat) (bs : List Nat) (m : M) :
    run (stop.map (· + k)) (lift E k m) bs = liftOut E (run stop m bs) := by
  rw [run_eq_flush, run_eq_flush, runM_lift_stop]
  cases runM stop m bs with
  | cont m' => exact flush_lift E k m'
  | exit e => rfl
  | error e => rfl

theorem run_lift (E : List Ev) (k : Nat) : ∀ (bs : List Nat) (m : M),
    run none (lift E k m) bs = liftOut E (run none m bs) :=
  run_lift_stop E k none

end Wellen.VcdBody
