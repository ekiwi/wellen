import WellenModel.Model.VcdHeader
/-! What C09 needs of the header reader: identifier codes and the two signal numberings of `mkDecls`, `extract_suffix_index`
read from the back, the bracket groups of `parse_name`. -/
namespace Wellen.VcdHeader
open Wellen.VcdBody Wellen.Store

/-- the value before the final `- 1`, by structural recursion from the last character (the fold runs over the reversed id) -/
def idVal : List Nat → Option Nat
  | [] => some 0
  | c :: r =>
    match idVal r with
    | none => none
    | some v =>
      if 33 ≤ c ∧ c ≤ 126 then
        let v' := v * 94 + ((c - 33) + 1)
        if v' < 2 ^ 64 then some v' else none
      else none

theorem foldl_idStep (id : List Nat) : id.reverse.foldl idStep (some 0) = idVal id := by
  induction id with
  | nil => rfl
  | cons c r ih =>
    simp only [List.reverse_cons, List.foldl_append, List.foldl_cons, List.foldl_nil, ih, idVal, idStep]
    cases idVal r <;> rfl

/-- every character is a digit 1..94 in base 94: a non-empty code has a value of at least 1, and the value determines the
first character and the value of the rest -/
theorem idVal_cons_inv {c : Nat} {r : List Nat} {v : Nat} (h : idVal (c :: r) = some v) :
    0 < v ∧ c = (v - 1) % 94 + 33 ∧ idVal r = some ((v - 1) / 94) := by
  rw [idVal] at h
  cases hw : idVal r with
  | none => rw [hw] at h; cases h
  | some w =>
    rw [hw] at h
    simp only at h
    split at h
    · split at h
      · rename_i hc _
        cases h
        have hd : c - 33 < 94 := by omega
        refine ⟨Nat.succ_pos _, ?_, congrArg some ?_⟩
        · show c = (w * 94 + (c - 33)) % 94 + 33
          rw [Nat.mul_comm, Nat.mul_add_mod, Nat.mod_eq_of_lt hd, Nat.sub_add_cancel hc.1]
        · show w = (w * 94 + (c - 33)) / 94
          rw [Nat.mul_comm, Nat.mul_add_div (by decide), Nat.div_eq_of_lt hd, Nat.add_zero]
      · cases h
    · cases h

theorem idVal_inj : ∀ (a b : List Nat) (v : Nat), idVal a = some v → idVal b = some v → a = b
  | [], [], _, _, _ => rfl
  | [], c :: r, _, ha, hb => by cases ha; exact absurd (idVal_cons_inv hb).1 (Nat.lt_irrefl 0)
  | c :: r, [], _, ha, hb => by cases hb; exact absurd (idVal_cons_inv ha).1 (Nat.lt_irrefl 0)
  | c :: r, c' :: r', _, ha, hb => by
    obtain ⟨-, hc, hr⟩ := idVal_cons_inv ha
    obtain ⟨-, hc', hr'⟩ := idVal_cons_inv hb
    rw [hc, hc', idVal_inj r r' _ hr hr']

theorem idToInt_eq_some {a : List Nat} {v : Nat} : idToInt a = some v ↔ idVal a = some (v + 1) := by
  unfold idToInt
  rw [foldl_idStep]
  cases a with
  | nil => exact ⟨nofun, nofun⟩
  | cons c r =>
    simp only [List.isEmpty_cons, Bool.false_eq_true, ↓reduceIte]
    cases h : idVal (c :: r) with
    | none => exact ⟨nofun, nofun⟩
    | some v1 =>
      simp only [Option.some.injEq]
      exact Nat.sub_eq_iff_eq_add (idVal_cons_inv h).1

theorem idToInt_inj (a b : List Nat) (v : Nat) (ha : idToInt a = some v) (hb : idToInt b = some v) : a = b :=
  idVal_inj a b (v + 1) (idToInt_eq_some.mp ha) (idToInt_eq_some.mp hb)

theorem indexOf?_go_eq (x : List Nat) (l : List (List Nat)) (k : Nat) :
    indexOf?.go x l k = (l.idxOf? x).map (· + k) := by
  induction l generalizing k with
  | nil => rfl
  | cons y r ih =>
    rw [indexOf?.go, List.idxOf?_cons, ih]
    by_cases h : y = x
    · simp [h]
    · cases r.idxOf? x <;> simp [h, Nat.add_assoc, Nat.add_comm 1]

theorem indexOf?_eq (l : List (List Nat)) (x : List Nat) : indexOf? l x = l.idxOf? x := by
  simp [indexOf?, indexOf?_go_eq]

theorem indexOf?_inj (l : List (List Nat)) (a b : List Nat) (v : Nat) (ha : indexOf? l a = some v) (hb : indexOf? l b = some v) :
    a = b := by
  rw [indexOf?_eq, List.idxOf?_eq_some_iff] at ha hb
  obtain ⟨_, ea, -⟩ := ha
  obtain ⟨_, eb, -⟩ := hb
  exact ea.symm.trans eb

theorem dedup_mem {x : List Nat} (ids acc : List (List Nat)) (h : x ∈ acc ∨ x ∈ ids) :
    x ∈ ids.foldl (fun acc id => if acc.contains id then acc else acc ++ [id]) acc := by
  induction ids generalizing acc with
  | nil => simpa using h
  | cons a r ih =>
    refine ih (if acc.contains a then acc else acc ++ [a]) ?_
    rcases h with h | h
    · exact .inl (by split <;> simp [h])
    · rcases List.mem_cons.mp h with rfl | h
      · refine .inl ?_
        split
        · rename_i hc; simpa using hc
        · simp
      · exact .inr h

/-- the hashed id map of `mkDecls` (distinct codes in first-seen order) has a position for every declared code -/
theorem indexOf?_dedup (ids : List (List Nat)) (x : List Nat) (hx : x ∈ ids) :
    ∃ n, indexOf? (ids.foldl (fun acc id => if acc.contains id then acc else acc ++ [id]) []) x = some n := by
  rw [indexOf?_eq]
  exact Option.isSome_iff_exists.mp (List.isSome_idxOf?.mpr (dedup_mem ids [] (.inr hx)))

/-- the direct numbering (`id_to_int`) is kept only if every declared code has a number -/
theorem idToInt_some_of_needMap_false (ids : List (List Nat)) (t : IdTracker) (h : needMap.go t ids = false) :
    ∀ id ∈ ids, ∃ v, idToInt id = some v := by
  induction ids generalizing t with
  | nil => nofun
  | cons a r ih =>
    simp only [needMap.go] at h
    cases ha : idToInt a with
    | none => simp [ha] at h
    | some v =>
      simp only [ha] at h
      split at h
      · cases h
      · exact List.forall_mem_cons.mpr ⟨⟨v, ha⟩, ih _ h⟩

/-- `mkDecls` reads both numberings with `.getD 0`; where they are defined that loses nothing -/
theorem getD_inj {α : Type} {f : α → Option Nat} (hf : ∀ a b v, f a = some v → f b = some v → a = b) {a b : α}
    (ha : ∃ v, f a = some v) (hb : ∃ v, f b = some v) (h : (f a).getD 0 = (f b).getD 0) : a = b := by
  obtain ⟨v, ea⟩ := ha
  obtain ⟨w, eb⟩ := hb
  rw [ea, eb] at h
  exact hf a b v ea (eb.trans (congrArg some h.symm))

theorem varSig_get (vars : List (List Nat × SigType)) (i : Nat) (p : List Nat × SigType) (h : vars[i]? = some p) :
    (mkDecls vars).varSig[i]? = some (if needMap (vars.map (·.1)) then
        (indexOf? ((vars.map (·.1)).foldl (fun acc id => if acc.contains id then acc else acc ++ [id]) []) p.1).getD 0 + 1
      else (idToInt p.1).getD 0) := by
  simp only [mkDecls, List.getElem?_map, h, Option.map_some]
  cases needMap (vars.map (·.1)) <;> rfl

theorem rev_induction {α : Type} {P : List α → Prop} (h0 : P []) (hs : ∀ r g, P r → P (r ++ [g])) (l : List α) : P l := by
  rw [← List.reverse_reverse l]
  induction l.reverse with
  | nil => exact h0
  | cons g r ih => rw [List.reverse_cons]; exact hs _ _ ih

/-! `extract_suffix_index` walks over the text from its last byte (`idxRev`), so of a text `a ++ x` the part `x` is consumed first:
each lemma `extractGo_…` takes one token `x` off the end (spaces in any state, `]`, a number — the same in the lsb and the msb state:
`NumSt` —, `:`, `[` after one bound (`…_open_lsb`) or two (`…_open_msb`), and the name, at which it stops), and inductions over `x`
add at its end (`rev_induction`). -/

/-- the (position, byte) pairs, last first -/
def idxRev (value : List Nat) : List (Nat × Nat) := ((List.range value.length).zip value).reverse

theorem extractSuffixIndex_eq (value : List Nat) : extractSuffixIndex value = extractGo value (idxRev value) .closing := rfl

theorem idxRev_snoc (a : List Nat) (b : Nat) : idxRev (a ++ [b]) = (a.length, b) :: idxRev a := by
  unfold idxRev
  simp only [List.length_append, List.length_cons, List.length_nil, Nat.zero_add]
  rw [List.range_succ, List.zip_append (by simp)]
  simp

/-- value of a digit string read from its least significant digit -/
def valLsb : List Nat → Int
  | [] => 0
  | x :: r => ((x : Int) - 48) + 10 * valLsb r

/-- decimal value of a digit string (most significant digit first) -/
def decVal (ds : List Nat) : Int := valLsb ds.reverse

def isDigits (ds : List Nat) : Prop := ∀ b ∈ ds, 48 ≤ b ∧ b ≤ 57
def isSpaces (sp : List Nat) : Prop := ∀ b ∈ sp, b = 32

theorem extractGo_spaces {value a sp : List Nat} {st : XSt} (h : isSpaces sp) :
    extractGo value (idxRev (a ++ sp)) st = extractGo value (idxRev a) st := by
  induction sp using rev_induction with
  | h0 => rw [List.append_nil]
  | hs r x ih =>
    rw [← List.append_assoc, idxRev_snoc]
    simp only [extractGo, h x (by simp), ↓reduceIte]
    exact ih (fun b hb => h b (by simp [hb]))

/-- text of a bound: an optional minus sign and decimal digits -/
def numTxt (neg : Bool) (ds : List Nat) : List Nat := (if neg then [45] else []) ++ ds
def sval (neg : Bool) (ds : List Nat) : Int := if neg then -(decVal ds) else decVal ds

/-- the two states of `extract_suffix_index` that read a number -/
inductive NumSt : (Int → Int → XSt) → Prop
  | lsb (e : Nat) : NumSt (.lsb e)
  | msb (e : Nat) (l : Int) : NumSt (.msb e l)

theorem extractGo_digit {value a : List Nat} {mk : Int → Int → XSt} (hmk : NumSt mk) {x : Nat} (hx : 48 ≤ x ∧ x ≤ 57) {num f : Int} :
    extractGo value (idxRev (a ++ [x])) (mk num f) = extractGo value (idxRev a) (mk (num + ((x : Int) - 48) * f) (f * 10)) := by
  rw [idxRev_snoc]
  cases hmk <;> simp only [extractGo, show ¬ x = 32 by omega, ↓reduceIte, hx, and_self]

theorem extractGo_minus {value a : List Nat} {mk : Int → Int → XSt} (hmk : NumSt mk) {num f : Int} :
    extractGo value (idxRev (a ++ [45])) (mk num f) = extractGo value (idxRev a) (mk (-num) f) := by
  rw [idxRev_snoc]
  cases hmk <;>
    simp only [extractGo, show ¬ (45 : Nat) = 32 by decide, show ¬ (48 ≤ 45 ∧ 45 ≤ 57) by decide, ↓reduceIte]

theorem extractGo_digits {value a ds : List Nat} {mk : Int → Int → XSt} (hmk : NumSt mk) (hd : isDigits ds) (num f : Int) :
    extractGo value (idxRev (a ++ ds)) (mk num f) =
      extractGo value (idxRev a) (mk (num + f * decVal ds) (f * 10 ^ ds.length)) := by
  induction ds using rev_induction generalizing num f with
  | h0 => simp [decVal, valLsb]
  | hs r x ih =>
    rw [← List.append_assoc, extractGo_digit hmk (hd x (by simp)), ih (fun b hb => hd b (by simp [hb]))]
    congr 2
    · simp only [decVal, List.reverse_append, List.reverse_cons, List.reverse_nil, List.nil_append, List.cons_append, valLsb]
      rw [Int.mul_add, Int.mul_assoc, Int.add_assoc, Int.mul_comm _ f]
    · rw [List.length_append, List.length_singleton, Int.pow_succ, Int.mul_assoc, Int.mul_comm 10]

theorem extractGo_num {value a ds : List Nat} {mk : Int → Int → XSt} (hmk : NumSt mk) (neg : Bool) (hd : isDigits ds) :
    extractGo value (idxRev (a ++ numTxt neg ds)) (mk 0 1) =
      extractGo value (idxRev a) (mk (sval neg ds) (10 ^ ds.length)) := by
  cases neg with
  | false => simpa [numTxt, sval] using extractGo_digits (a := a) hmk hd 0 1
  | true =>
    simp only [numTxt, ↓reduceIte, sval]
    rw [← List.append_assoc, extractGo_digits hmk hd 0 1, extractGo_minus hmk]
    simp

theorem extractGo_close {value a : List Nat} :
    extractGo value (idxRev (a ++ [93])) .closing = extractGo value (idxRev a) (.lsb a.length 0 1) := by
  rw [idxRev_snoc]
  simp only [extractGo, show ¬ (93 : Nat) = 32 by decide, ↓reduceIte]

theorem extractGo_colon {value a : List Nat} {e : Nat} {num f : Int} :
    extractGo value (idxRev (a ++ [58])) (.lsb e num f) = extractGo value (idxRev a) (.msb e num 0 1) := by
  rw [idxRev_snoc]
  simp only [extractGo, show ¬ (58 : Nat) = 32 by decide, show ¬ (48 ≤ 58 ∧ 58 ≤ 57) by decide, show ¬ (58 : Nat) = 45 by decide, ↓reduceIte]

theorem extractGo_open_lsb {value a : List Nat} {e : Nat} {num f : Int} :
    extractGo value (idxRev (a ++ [91])) (.lsb e num f) = extractGo value (idxRev a) (.name (mkIndex num num)) := by
  rw [idxRev_snoc]
  simp only [extractGo, show ¬ (91 : Nat) = 32 by decide, show ¬ (48 ≤ 91 ∧ 91 ≤ 57) by decide, show ¬ (91 : Nat) = 45 by decide,
    show ¬ (91 : Nat) = 58 by decide, ↓reduceIte]

theorem extractGo_open_msb {value a : List Nat} {e : Nat} {l num f : Int} :
    extractGo value (idxRev (a ++ [91])) (.msb e l num f) = extractGo value (idxRev a) (.name (mkIndex num l)) := by
  rw [idxRev_snoc]
  simp only [extractGo, show ¬ (91 : Nat) = 32 by decide, show ¬ (48 ≤ 91 ∧ 91 ≤ 57) by decide, show ¬ (91 : Nat) = 45 by decide,
    ↓reduceIte]

theorem extractGo_name {value pre : List Nat} {c : Nat} {idx : VarIndex} (hc : c ≠ 32) (hv : pre ++ [c] <+: value) :
    extractGo value (idxRev (pre ++ [c])) (.name idx) = (pre ++ [c], some idx) := by
  rw [idxRev_snoc]
  simp only [extractGo, hc, ↓reduceIte]
  -- the name is cut out of `value` by the position of `c`
  rw [List.prefix_iff_eq_take.mp hv, List.length_append, List.length_singleton]

/-! `parse_name` peels bracket groups off what `extract_suffix_index` leaves: `findLast` finds the `[` of the last group,
`trimRight` drops the spaces in front of it. -/

/-- a bracket group `[content]` -/
def grp (c : List Nat) : List Nat := [91] ++ c ++ [93]

/-- base name followed by bracket groups, each after optional spaces -/
def withGroups (b : List Nat) : List (List Nat × List Nat) → List Nat
  | [] => b
  | (sp, c) :: r => withGroups (b ++ sp ++ grp c) r

theorem withGroups_snoc (b : List Nat) (gs : List (List Nat × List Nat)) (sp c : List Nat) :
    withGroups b (gs ++ [(sp, c)]) = withGroups b gs ++ sp ++ grp c := by
  induction gs generalizing b with
  | nil => rfl
  | cons g r ih => exact ih _

theorem getLast?_append_grp (a c : List Nat) : (a ++ grp c).getLast? = some 93 := by
  rw [grp, ← List.append_assoc, List.getLast?_concat]

theorem withGroups_last (b : List Nat) (gs : List (List Nat × List Nat)) (hb : b.getLast? ≠ some 32) :
    (withGroups b gs).getLast? ≠ some 32 := by
  induction gs using rev_induction with
  | h0 => exact hb
  | hs r g _ =>
    rw [withGroups_snoc, getLast?_append_grp]
    nofun

theorem withGroups_length (b : List Nat) (gs : List (List Nat × List Nat)) : gs.length ≤ (withGroups b gs).length := by
  induction gs using rev_induction with
  | h0 => exact Nat.zero_le _
  | hs r g ih =>
    rw [withGroups_snoc]
    simp only [grp, List.length_append, List.length_cons, List.length_nil]
    omega

theorem findLast_go_none (needle : Nat) (l : List Nat) (pos : Nat) (best : Option Nat) (h : needle ∉ l) :
    findLast.go needle l pos best = best := by
  induction l generalizing pos best with
  | nil => rfl
  | cons a r ih =>
    rw [findLast.go, if_neg (fun e => h (by simp [e])), ih _ _ (fun hm => h (List.mem_cons_of_mem _ hm))]

theorem findLast_go_last (needle : Nat) (A C : List Nat) (pos : Nat) (best : Option Nat) (hC : needle ∉ C) :
    findLast.go needle (A ++ needle :: C) pos best = some (pos + A.length) := by
  induction A generalizing pos best with
  | nil => rw [List.nil_append, findLast.go, if_pos rfl, findLast_go_none needle C _ _ hC]; rfl
  | cons a r ih => rw [List.cons_append, findLast.go, ih, List.length_cons, Nat.add_assoc, Nat.add_comm 1]

theorem findLast_grp (a c : List Nat) (hc : 91 ∉ c) : findLast (a ++ grp c) 91 = some a.length := by
  unfold findLast
  rw [show a ++ grp c = a ++ 91 :: (c ++ [93]) from rfl, findLast_go_last 91 a (c ++ [93]) 0 none (by simp [hc]), Nat.zero_add]

theorem rightSp_eq (l : List Nat) : trimRight.rightSp l = l.dropWhile (· = 32) := by
  induction l with
  | nil => rfl
  | cons a r ih => simp only [trimRight.rightSp, List.dropWhile_cons, decide_eq_true_eq, ih]

theorem trimRight_spaces (N sp : List Nat) (hs : isSpaces sp) (hN : N.getLast? ≠ some 32) : trimRight (N ++ sp) = N := by
  rw [trimRight, rightSp_eq, List.reverse_append,
    List.dropWhile_append_of_pos (fun x hx => decide_eq_true (hs x (List.mem_reverse.mp hx)))]
  cases hr : N.reverse with
  | nil => rw [List.reverse_eq_nil_iff.mp hr]; rfl
  | cons a r =>
    rw [← List.head?_reverse, hr] at hN
    rw [List.dropWhile_cons_of_neg (by simpa using hN), ← hr, List.reverse_reverse]

/-- the loop of `parse_name` on `base [g1] [g2] … [gn]` (any spaces in front of each group, no `[` inside a group, the base
not ending in `]` or a space) returns the base and the groups, last first; it needs one round more than there are groups -/
theorem groups_withGroups (b : List Nat) (hb1 : b.getLast? ≠ some 93) (hb2 : b.getLast? ≠ some 32)
    (gs : List (List Nat × List Nat)) (hg : ∀ g ∈ gs, isSpaces g.1 ∧ 91 ∉ g.2)
    (fuel : Nat) (acc : List (List Nat)) (hf : gs.length ≤ fuel) :
    parseName.groups (fuel + 1) (withGroups b gs) acc = some (b, acc ++ gs.reverse.map (fun g => grp g.2)) := by
  induction gs using rev_induction generalizing fuel acc with
  | h0 => simp [parseName.groups, withGroups, hb1]
  | hs r g ih =>
    obtain ⟨hsp, h91⟩ := hg g (by simp)
    cases fuel with
    | zero => simp at hf
    | succ f =>
      rw [withGroups_snoc, parseName.groups, if_pos (getLast?_append_grp ..), findLast_grp _ _ h91]
      simp only
      rw [List.take_left' rfl, List.drop_left' rfl, trimRight_spaces _ _ hsp (withGroups_last b r hb2),
        ih (fun g' hg' => hg g' (by simp [hg'])) _ _ (by simpa using hf)]
      simp

theorem parseName_of_parts {name n0 : List Nat} {index : Option VarIndex}
    (hx : extractSuffixIndex name = (n0, index)) {base : List Nat} {idxs : List (List Nat)}
    (hg : parseName.groups (name.length + 1) n0 [] = some (base, idxs)) :
    parseName name = some (match (generalizing := false) idxs with
      | [] => (base, index, [])
      | final :: _ => (final, index, base :: (idxs.drop 1).reverse)) := by
  unfold parseName
  split
  · -- the empty name is answered at once, and both parts are empty
    rename_i he
    rw [List.isEmpty_iff.mp he] at hx hg
    cases hx
    cases hg
    rfl
  · rw [hx]
    simp only [hg]
    cases idxs <;> rfl

end Wellen.VcdHeader
