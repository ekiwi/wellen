import WellenModel.Proofs.Refine
import WellenModel.Proofs.Raw
/-!
The four signal types as instances of `Kind`, each with the proof that both write paths agree with the specification on its values
(`KindOK`; for vectors `addVcd_value` and `addNBit_value`). The stream loader of vectors accepts time deltas up to 2^30, more than
`Kind.load` asks for: `store_load_vector_canon` and `store_load_vector` are stated at that bound.
-/
namespace Wellen.Store
open Wellen.Bits Wellen.Spec

theorem join_two (a : States) : States.join a .two = a := by
  unfold States.join; simp [States.toNat]

theorem foldl_map_pair {α β : Type} (f : α → β) (g : (Nat × Acc) → β → (Nat × Acc)) (cs : List α) (init : Nat × Acc) :
    (cs.map f).foldl g init = cs.foldl (fun st c => g st (f c)) init := by
  rw [List.foldl_map]

theorem vcdValue_bitvec (bits : Nat) (value : List Nat) (realLe : Option (List Nat)) :
    vcdValue (.bitvec bits) value realLe =
      match charsToNums (vcdBits value) with
      | none => none
      | some nums =>
        match nums with
        | [] => none
        | n0 :: _ =>
          if bits = 1 then some (.bits [n0])
          else if nums.length = bits then some (.bits nums)
          else if nums.length > bits then none
          else if n0 ≤ 1 then some (.bits (List.replicate (bits - nums.length) 0 ++ nums))
          else if n0 ≤ 3 then some (.bits (List.replicate (bits - nums.length) n0 ++ nums))
          else none := by
  cases value <;> rfl

/-- strings: LEB128(delta), LEB128(length), bytes -/
def strKind : Kind where
  tpe := .string
  enc1 := fun x => lebWrite x.1 ++ lebWrite x.2.2.length ++ x.2.2
  fit := fun _ => True
  entry := fun _ x => x.2.2
  valEnc := fun v => match v with | .str b => (.two, b) | _ => (.two, [])
  valOK := fun v => ∃ b, v = .str b
  chunk_ne := fun x => by simp [lebWrite_ne_nil]
  load := by
    intro sigS cs h fuel off a hf
    have h1 := loadStrings_stream (cs.map fun x => (x.1, x.2.2))
      (by intro c hc; obtain ⟨x, hx, rfl⟩ := List.mem_map.mp hc; have := (h x hx).2; simp only; omega) fuel off a (by simpa using hf)
    have e1 : encStrings (cs.map fun x => (x.1, x.2.2)) = (cs.map fun x => lebWrite x.1 ++ lebWrite x.2.2.length ++ x.2.2).flatten := by
      simp [encStrings, List.map_map, Function.comp_def]
    simp only [loaderOf]
    rw [← e1, h1]
    simp [replayPlain, replayK, List.foldl_map]
  inj := by
    intro sigS k1 k2 v1 v2 h1 h2 _ _ he
    obtain ⟨b1, rfl⟩ := h1
    obtain ⟨b2, rfl⟩ := h2
    simp only at he
    rw [he]
  entry_time := fun _ _ _ _ => rfl

theorem strKind_ok : KindOK strKind where
  vcd := by
    intro ti value realLe si snew v hst _ hadd hv
    have hst' : si.tpe = .string := hst
    cases value with
    | nil => cases hadd
    | cons c0 rest =>
      simp only [addVcd, hst'] at hadd
      simp only [vcdValue, strKind] at hv
      split at hadd
      · rw [if_pos ‹_›] at hv
        cases hadd; cases hv
        exact ⟨⟨rest, rfl⟩, trivial, rfl, rfl, hst'.symm, Nat.le_refl _, Nat.zero_le _⟩
      · cases hadd
  real := fun _ _ _ _ _ hk => nomatch hk
  raw := fun _ _ _ _ _ _ _ _ hv => nomatch hv

/-- reals: LEB128(delta), the 8 bytes of the double -/
def realKind : Kind where
  tpe := .real
  enc1 := fun x => lebWrite x.1 ++ x.2.2
  fit := fun p => p.2.length = 8
  entry := fun _ x => x.2.2
  valEnc := fun v => match v with | .real le => (.two, le) | _ => (.two, [])
  valOK := fun v => ∃ le, v = .real le ∧ le.length = 8
  chunk_ne := fun x => by simp [lebWrite_ne_nil]
  load := by
    intro sigS cs h fuel off a hf
    have h1 := loadReals_stream (cs.map fun x => (x.1, x.2.2))
      (by intro c hc; obtain ⟨x, hx, rfl⟩ := List.mem_map.mp hc; have := h x hx; simp only; exact ⟨this.1, by omega⟩) fuel off a (by simpa using hf)
    have e1 : encReals (cs.map fun x => (x.1, x.2.2)) = (cs.map fun x => lebWrite x.1 ++ x.2.2).flatten := by
      simp [encReals, List.map_map, Function.comp_def]
    simp only [loaderOf]
    rw [← e1, h1]
    simp [replayPlain, replayK, List.foldl_map]
  inj := by
    intro sigS k1 k2 v1 v2 h1 h2 _ _ he
    obtain ⟨b1, rfl, _⟩ := h1
    obtain ⟨b2, rfl, _⟩ := h2
    simp only at he
    rw [he]
  entry_time := fun _ _ _ _ => rfl

theorem realKind_ok : KindOK realKind where
  vcd := by
    intro ti value realLe si snew v hst h8 hadd hv
    have hst' : si.tpe = .real := hst
    cases value with
    | nil => cases hadd
    | cons c0 rest =>
      simp only [addVcd, hst'] at hadd
      simp only [vcdValue, realKind] at hv
      split at hadd
      · rw [if_pos ‹_›] at hv
        cases realLe with
        | none => cases hadd
        | some le =>
          cases hadd; cases hv
          exact ⟨⟨le, rfl, h8 le rfl⟩, h8 le rfl, rfl, rfl, hst'.symm, Nat.le_refl _, Nat.zero_le _⟩
      · cases hadd
  real := by
    intro ti le si snew _ _ h8 hadd
    cases hadd
    exact ⟨⟨le, rfl, h8⟩, h8, rfl, rfl, rfl, Nat.le_refl _, Nat.zero_le _⟩
  raw := fun _ _ _ _ _ _ _ _ hv => nomatch hv

theorem oneBitEntry_inj : ∀ a b : Fin 9, oneBitEntry a.val = oneBitEntry b.val → a = b := by decide +kernel

/-- one-bit signals: LEB128(delta << 4 + value) -/
def bitKind : Kind where
  tpe := .bitvec 1
  enc1 := fun x => lebWrite ((x.1 <<< 4) + x.2.2.headD 0)
  fit := fun p => p.2.headD 0 < 9
  entry := fun _ x => oneBitEntry (x.2.2.headD 0)
  valEnc := fun v => match v with | .bits syms => (States.fromValue (syms.headD 0), [syms.headD 0]) | _ => (.two, [])
  valOK := fun v => ∃ b, v = .bits [b] ∧ b < 9
  chunk_ne := fun x => lebWrite_ne_nil _
  load := by
    intro sigS cs h fuel off a hf
    have h1 := loadFixed_stream_onebit sigS (cs.map fun x => (x.1, x.2.2.headD 0))
      (by
        intro c hc
        obtain ⟨x, hx, rfl⟩ := List.mem_map.mp hc
        obtain ⟨h9, hd⟩ := h x hx
        simp only
        have h9' : x.2.2.headD 0 < 9 := h9
        refine ⟨by omega, ?_⟩
        rw [Nat.shiftLeft_eq]
        omega) fuel off a (by simpa using hf)
    have e1 : encOneBit (cs.map fun x => (x.1, x.2.2.headD 0)) = (cs.map fun x => lebWrite ((x.1 <<< 4) + x.2.2.headD 0)).flatten := by
      simp [encOneBit, List.map_map, Function.comp_def]
    simp only [loaderOf]
    rw [← e1, h1]
    simp [replayOneBit, replayK, List.foldl_map]
  inj := by
    intro sigS k1 k2 v1 v2 h1 h2 _ _ he
    obtain ⟨b1, rfl, hb1⟩ := h1
    obtain ⟨b2, rfl, hb2⟩ := h2
    simp only [List.headD_cons] at he
    have := oneBitEntry_inj ⟨b1, hb1⟩ ⟨b2, hb2⟩ he
    simp only [Fin.mk.injEq] at this
    rw [this]
  entry_time := fun _ _ _ _ => rfl

theorem bitKind_ok : KindOK bitKind where
  vcd := by
    intro ti value realLe si snew v hst _ hadd hv
    obtain ⟨c, r, bv, hvb, hc, rfl⟩ := addVcd_bit hst hadd
    have hlt : bv < 9 := (bitChar_some c bv hc).1
    rw [show bitKind.tpe = .bitvec 1 from rfl, vcdValue_bitvec, hvb] at hv
    simp only [charsToNums, hc] at hv
    cases hr : charsToNums r with
    | none => simp [hr] at hv
    | some vs =>
      simp only [hr, ↓reduceIte, Option.some.injEq] at hv
      subst hv
      exact ⟨⟨bv, rfl, hlt⟩, hlt, rfl, rfl, rfl, join_ge_left _ _, join_ge_right _ _⟩
  real := fun _ _ _ _ _ hk => nomatch hk
  raw := by
    intro ti st bytes si snew v hst hadd hv
    have hst' : si.tpe = .bitvec 1 := hst
    simp only [addNBit, hst', ↓reduceIte, Option.some.injEq] at hadd
    simp only [rawValue, bitKind, ↓reduceIte] at hv
    split at hv
    · rename_i b
      split at hv
      · rename_i hb
        cases hv; subst hadd
        refine ⟨⟨b, rfl, hb.1⟩, hb.1, rfl, rfl, hst'.symm, join_ge_left _ _, Nat.le_trans ?_ (join_ge_right _ _)⟩
        -- the kind of the value is the smallest kind of its one symbol, and `st` holds that symbol
        show (States.fromValue b).toNat ≤ st.toNat
        rw [fromValue_eq_kindOf [b] b (fun k => by simp) (by omega)]
        exact kindOf_le [b] st (List.forall_mem_singleton.mpr (Nat.lt_of_le_of_lt hb.2 (Nat.sub_one_lt (Nat.pos_iff_ne_zero.mp (Nat.two_pow_pos _)))))
      · cases hv
    · cases hv

/-- what `add_vcd_change` appends for a token the specification accepts: the chunk of the specification's value -/
theorem addVcd_value (ti : Nat) (value : List Nat) (realLe : Option (List Nat)) (s s' : SigEnc) (bits : Nat)
    (ht : s.tpe = .bitvec bits) (hb : bits ≠ 1) (h : addVcd ti value realLe s = some s')
    (v : Value) (hv : vcdValue (.bitvec bits) value realLe = some v) :
    ∃ nums, v = .bits nums ∧ nums.length = bits ∧ (∀ x ∈ nums, x < 2 ^ (kindOf nums).bits) ∧
      s'.chunks = encChange (ti - s.prevTimeIdx) (kindOf nums) (writeNState (kindOf nums) nums none) :: s.chunks ∧
      s'.prevTimeIdx = ti ∧ s'.tpe = s.tpe ∧ s'.maxStates = States.join s.maxStates (kindOf nums) := by
  obtain ⟨st, chars, nums, hst, hch, hn, rfl⟩ := addVcd_vec ht hb h
  obtain ⟨n0, hn0, rfl⟩ := checkStates_minimal _ st hst
  obtain ⟨hnl, hk, hcase⟩ := toWidth_nums hch hn0 hn
  refine ⟨nums, ?_, hnl, kindOf_fits (charsToNums_lt hn), by rw [hk], rfl, rfl, by rw [hk]⟩
  -- the specification extends a short token to the left as the encoder does
  rw [vcdValue_bitvec, hn0] at hv
  have hl0 : n0.length = (vcdBits value).length := charsToNums_length hn0
  rcases hcase with ⟨hfull, rfl⟩ | ⟨v0, vs, hlt, rfl, h3, rfl⟩
  · cases nums with
    | nil => cases hv
    | cons a r => simp only [hb, hnl, ↓reduceIte, Option.some.injEq] at hv; exact hv.symm
  · simp only [hb, hl0, Nat.ne_of_lt hlt, Nat.lt_asymm hlt, h3, ↓reduceIte] at hv
    split at hv
    · rw [if_pos ‹_›]; exact (Option.some.inj hv).symm
    · rw [if_neg ‹_›]; exact (Option.some.inj hv).symm

/-- vectors of two or more bits: LEB128(delta << 2 | kind), packed symbols -/
def vecKind (bits : Nat) (hb2 : 2 ≤ bits) : Kind where
  tpe := .bitvec bits
  enc1 := fun x => encChange x.1 x.2.1 x.2.2
  fit := fun p => p.2.length = divCeil bits p.1.bib
  entry := fun sigS x => alignEntry sigS x.2.1 bits x.2.2
  valEnc := fun v => match v with | .bits syms => (kindOf syms, writeNState (kindOf syms) syms none) | _ => (.two, [])
  valOK := fun v => ∃ syms, v = .bits syms ∧ syms.length = bits ∧ ∀ u ∈ syms, u < 2 ^ (kindOf syms).bits
  chunk_ne := fun x => by simp [encChange, lebWrite_ne_nil]
  load := by
    intro sigS cs h fuel off a hf
    have h1 := loadFixed_stream bits (by omega) sigS cs
      (fun x hx => ⟨(h x hx).1, chunkHeader_lt x.1 x.2.1 (by have := (h x hx).2; omega)⟩) fuel off a hf
    simp only [loaderOf]
    have e1 : encStream cs = (cs.map fun x => encChange x.1 x.2.1 x.2.2).flatten := rfl
    rw [← e1, h1]
    rfl
  inj := by
    intro sigS k1 k2 v1 v2 h1 h2 hle1 hle2 he
    obtain ⟨s1, rfl, hl1, hv1⟩ := h1
    obtain ⟨s2, rfl, hl2, hv2⟩ := h2
    simp only at he hle1 hle2
    rw [← hl1] at he
    have he' : alignEntry sigS (kindOf s1) s1.length (writeNState (kindOf s1) s1 none) =
        alignEntry sigS (kindOf s2) s2.length (writeNState (kindOf s2) s2 none) := by
      rw [he]; congr 1; omega
    have := entry_injective (by omega) (List.ne_nil_of_length_pos (by omega)) hv1 hv2 hle1 hle2 he'
    rw [this.2]
  entry_time := fun _ _ _ _ => rfl

/-- vectors: a VCD token the specification accepts appends the chunk of its value, whatever the parsed real is -/
theorem vecKind_vcd_agrees (bits : Nat) (hb2 : 2 ≤ bits) (ti : Nat) (value : List Nat) (realLe : Option (List Nat)) (si snew : SigEnc) (v : Value)
    (hst : si.tpe = .bitvec bits) (hadd : addVcd ti value realLe si = some snew) (hv : vcdValue (.bitvec bits) value realLe = some v) :
    Agrees (vecKind bits hb2) ti si snew v := by
  obtain ⟨nums, rfl, rfl, hfit, hch, hpn, htn, hmx⟩ := addVcd_value ti value realLe si snew bits hst (by omega) hadd v hv
  exact ⟨⟨nums, rfl, rfl, hfit⟩, Wellen.Store.writeNState_length .., hch, hpn, htn, hmx ▸ join_ge_left _ _, hmx ▸ join_ge_right _ _⟩

theorem vecKind_ok (bits : Nat) (hb2 : 2 ≤ bits) : KindOK (vecKind bits hb2) where
  vcd := fun ti value realLe si snew v hst _ hadd hv => vecKind_vcd_agrees bits hb2 ti value realLe si snew v hst hadd hv
  real := fun _ _ _ _ _ hk => nomatch hk
  raw := by
    intro ti st bytes si snew v hst hadd hv
    obtain ⟨syms, rfl, rfl, hfit, hch, hpn, htn, hm1, hm2⟩ := addNBit_value ti bytes st si snew bits hst (by omega) hadd v hv
    exact ⟨⟨syms, rfl, rfl, hfit⟩, Wellen.Store.writeNState_length .., hch, hpn, htn, hm1, hm2⟩

def kindFor (tpe : SigType) (h : ∀ b, tpe = .bitvec b → 1 ≤ b) : Kind :=
  match tpe, h with
  | .string, _ => strKind
  | .real, _ => realKind
  | .bitvec b, h => if h1 : b = 1 then bitKind else vecKind b (by have := h b rfl; omega)

theorem kindFor_tpe (tpe : SigType) (h : ∀ b, tpe = .bitvec b → 1 ≤ b) : (kindFor tpe h).tpe = tpe := by
  cases tpe with
  | string => rfl
  | real => rfl
  | bitvec b =>
    simp only [kindFor]
    split
    · rename_i h1; subst h1; rfl
    · rfl

theorem kindFor_ok (tpe : SigType) (h : ∀ b, tpe = .bitvec b → 1 ≤ b) : KindOK (kindFor tpe h) := by
  cases tpe with
  | string => exact strKind_ok
  | real => exact realKind_ok
  | bitvec b =>
    simp only [kindFor]
    split
    · exact bitKind_ok
    · exact vecKind_ok b _

/-- the chunk the specification's change stands for: smallest kind, packed symbols -/
def encV : Nat × Value → Change
  | (k, .bits syms) => (k, kindOf syms, writeNState (kindOf syms) syms none)
  | (k, _) => (k, .two, [])

/-- `SigInBlock` without the payload size bound (that one is a hypothesis about the finished store) -/
def SigInBlock' (bits i : Nat) (p : BInfo) : Prop :=
  p.1.signals.toList[i]? = some p.2.1 ∧ p.2.1.dataBytes = encStream p.2.2 ∧
  (∀ x ∈ p.2.2, x.2.2.length = divCeil bits x.2.1.bib ∧ x.1 < 2 ^ 30) ∧
  (∀ x ∈ p.2.2, x.2.1.toNat ≤ p.2.1.maxStates.toNat)

/-- the simulation relation written out for vectors at their loader's bound, one encoder from the start and no split seen (what
`SimB (2 ^ 30) (vecKind bits _) c i 0 []` says then, without the alternatives for a state right behind a split); the proofs use `SimB`,
nothing is stated about this form -/
structure Sim (c : Codec) (bits i : Nat) (e : Enc) (s : Spec.St) (l : List BInfo) (cs : List Change) : Prop where
  inv : Inv e
  wf : s.ttLen = s.ttRev.length
  skip : e.skipping = s.skipping
  head : e.timeRev.head? = s.ttRev.head?
  len : s.ttLen = offOf l + e.timeLen
  cap : e.timeLen ≤ c.blockMax
  blocks : e.blocksRev.reverse = l.map (fun p => mkBlock c p.1)
  inblk : ∀ p ∈ l, SigInBlock' bits i p
  sig : ∃ si, e.signals.toList[i]? = some si ∧ si.tpe = .bitvec bits ∧ si.dataBytes = encStream cs ∧
        si.prevTimeIdx = (cs.map (·.1)).sum ∧ si.prevTimeIdx ≤ e.timeLen - 1 ∧
        (∀ x ∈ cs, x.2.1.toNat ≤ si.maxStates.toNat)
  fits : ∀ x ∈ cs, x.2.2.length = divCeil bits x.2.1.bib ∧ x.1 < 2 ^ 30
  clean : e.hasNewData = false → cs = []
  sem : absAll l 0 ++ absolutise (offOf l) cs = ((s.changesRev.getD i []).reverse).map encV
  vals : ∀ x ∈ s.changesRev.getD i [], ∃ syms, x.2 = .bits syms ∧ syms.length = bits ∧ ∀ u ∈ syms, u < 2 ^ (kindOf syms).bits

theorem encV_eq (bits : Nat) (hb2 : 2 ≤ bits) : encV = encVK (vecKind bits hb2) := by
  funext ⟨k, v⟩; cases v <;> rfl

theorem vecKind_agree (bits : Nat) (hb2 : 2 ≤ bits) {types : Array SigType} {i : Nat} (hti : types[i]? = some (.bitvec bits)) {op : Op} {v : Value}
    (hw : Writes types op i v) (ti : Nat) (si snew : SigEnc)
    (hst : si.tpe = .bitvec bits) (hadd : writerOf op ti si = some snew) : Agrees (vecKind bits hb2) ti si snew v := by
  cases hw with
  | vcd h1 h2 => rw [hti] at h1; cases h1; exact vecKind_vcd_agrees bits hb2 ti _ _ si snew v hst hadd h2
  | raw h1 h2 => rw [hti] at h1; cases h1; exact (vecKind_ok bits hb2).raw ti _ _ si snew v hst hadd h2
  | real h1 h2 => rw [hti] at h1; cases h1

def WFV (bits : Nat) (sigS : States) (v : Value) : Prop :=
  ∃ syms, v = .bits syms ∧ syms.length = bits ∧ (∀ u ∈ syms, u < 2 ^ (kindOf syms).bits) ∧ (kindOf syms).toNat ≤ sigS.toNat

def entryOf (bits : Nat) (sigS : States) (x : Nat × Value) : List Nat :=
  alignEntry sigS (encV x).2.1 bits (encV x).2.2

theorem wfv_iff (bits : Nat) (hb2 : 2 ≤ bits) (sigS : States) (v : Value) : WFV bits sigS v ↔ WFK (vecKind bits hb2) sigS v := by
  constructor
  · rintro ⟨syms, rfl, hl, hf, hle⟩; exact ⟨⟨syms, rfl, hl, hf⟩, hle⟩
  · rintro ⟨⟨syms, rfl, hl, hf⟩, hle⟩; exact ⟨syms, rfl, hl, hf, hle⟩

theorem entryOf_eq (bits : Nat) (hb2 : 2 ≤ bits) (sigS : States) :
    entryOf bits sigS = fun x => (vecKind bits hb2).entry sigS (encVK (vecKind bits hb2) x) := by
  funext x; rw [← encV_eq]; rfl

/-- **the loader's replay of the specification's changes is `canon`**: times and entries of the kept changes -/
theorem replay_canon (bits : Nat) (hb2 : 2 ≤ bits) (sigS : States) (xs : List (Nat × Value)) (hx : ∀ x ∈ xs, WFV bits sigS x.2) :
    (replayAbs bits sigS (xs.map encV) {}).timesRev.reverse = (canon xs).map (·.1) ∧
    (replayAbs bits sigS (xs.map encV) {}).entriesRev.reverse = (canon xs).map (entryOf bits sigS) := by
  rw [encV_eq bits hb2, entryOf_eq bits hb2]
  exact replay_canonK (vecKind bits hb2) sigS xs fun x h => (wfv_iff bits hb2 sigS x.2).mp (hx x h)

theorem entryOf_decodes {bits : Nat} (hb2 : 2 ≤ bits) {sigS : States} (k : Nat) {v : Value} (h : WFV bits sigS v) :
    ∃ syms d, v = .bits syms ∧
      decodeEntry sigS bits (getLenAndMeta sigS bits).2 (entryOf bits sigS (k, v)) = some (kindOf syms, d) ∧
      toSyms (kindOf syms) d bits = syms := by
  obtain ⟨syms, rfl, hl, hv, hle⟩ := h
  obtain ⟨d, hd, ht⟩ := entry_roundtrip sigS (kindOf syms) syms (List.ne_nil_of_length_pos (by omega)) hv hle
  rw [hl] at hd ht
  exact ⟨syms, d, rfl, hd, ht⟩

/-- **Store = specification, vector signals**: for every history accepted by the store and by the specification, a VCD vector
signal of two or more bits loads — across any number of blocks and compression decisions — with exactly the time indices of
`canon` of the specification's change list (immediate repetitions removed, nothing else), and the entry stored for each kept
change is the aligned packing of that change's symbols in their smallest kind (`entryOf_decodes`: it decodes to them). -/
theorem store_load_vector_canon {c : Codec} {bits i : Nat} (hb2 : 2 ≤ bits) (hbm : 1 ≤ c.blockMax) (hbmax : c.blockMax ≤ 2 ^ 30)
    {tps : List SigType} (hti : tps[i]? = some (.bitvec bits)) {ops : List Op}
    {e : Enc} (he : runOps c (newEnc tps) ops = some e) {s : Spec.St} (hs : foldSpec tps.toArray ops (specInit tps) = some s)
    (hsmall : ∀ b ∈ (finish c e).1.blocks, b.data.length < 2 ^ 36) :
    ∃ sigS, loadSignal (finish c e).1 i (.bitvec bits) =
      some { maxStates := sigS,
             times := (canon (s.changesRev.getD i []).reverse).map (·.1),
             entries := (canon (s.changesRev.getD i []).reverse).map (entryOf bits sigS) } ∧
      ∀ x ∈ (s.changesRev.getD i []).reverse, WFV bits sigS x.2 := by
  obtain ⟨lf, h1, h3, h4, -, -, h7⟩ := seg_refineB (2 ^ 30) (vecKind bits hb2) hbm hbmax hti (s := specInit tps) rfl (.inl rfl) (fun _ => rfl)
    (by rw [specInit_getD]; nofun) (fun op _ _ hw => vecKind_agree bits hb2 (by simpa using hti) hw) he hs
  rw [specChunks_init] at h4
  obtain ⟨sigS, hl, hwf⟩ := load_canonB (2 ^ 30) (vecKind bits hb2)
    (fun sigS cs h fuel off a hf => loadFixed_stream bits (by omega) sigS cs (fun x hx => ⟨(h x hx).1, chunkHeader_lt x.1 x.2.1 (h x hx).2⟩) fuel off a hf)
    h1 h3 h4 (fun x hx => h7 x (List.mem_reverse.mp hx)) hsmall
  exact ⟨sigS, by rw [entryOf_eq bits hb2]; exact hl, fun x hx => (wfv_iff bits hb2 sigS x.2).mpr (hwf x hx)⟩

/-- **the loaded signal is a function of the specification's change list alone**: for any history the store accepts and the
specification accepts, a VCD vector signal of two or more bits is loaded — across any number of blocks, whatever the compression
decisions — as the loader's replay (alignment to the widest kind, removal of immediate repetitions) of the changes the
specification records, each as (time index, smallest sufficient kind, packed symbols).
`hsmall` excludes stores whose blocks exceed 2^36 bytes (the compressed-length field of the meta word is 32 bits wide). -/
theorem store_load_vector (c : Codec) (bits i : Nat) (hb2 : 2 ≤ bits) (hbm : 1 ≤ c.blockMax) (hbmax : c.blockMax ≤ 2 ^ 30)
    (tps : List SigType) (hti : tps[i]? = some (.bitvec bits)) (ops : List Op) (hraw : ∀ op ∈ ops, ∀ st b, op ≠ .raw i st b)
    (e : Enc) (he : runOps c (newEnc tps) ops = some e) (s : Spec.St) (hs : foldSpec tps.toArray ops (specInit tps) = some s)
    (hsmall : ∀ b ∈ (finish c e).1.blocks, b.data.length < 2 ^ 36) :
    ∃ sigS, loadSignal (finish c e).1 i (.bitvec bits) =
      some { maxStates := sigS,
             times := (replayAbs bits sigS (((s.changesRev.getD i []).reverse).map encV) {}).timesRev.reverse,
             entries := (replayAbs bits sigS (((s.changesRev.getD i []).reverse).map encV) {}).entriesRev.reverse } := by
  obtain ⟨sigS, hl, hwf⟩ := store_load_vector_canon hb2 hbm hbmax hti he hs hsmall
  obtain ⟨ht, hen⟩ := replay_canon bits hb2 sigS _ hwf
  exact ⟨sigS, by rw [ht, hen]; exact hl⟩

end Wellen.Store
