import WellenModel.Proofs.EvOps
import WellenModel.Proofs.RefineAll
import WellenModel.Proofs.SplitFree
/-!
A multi-threaded load that succeeds IS the store run with one encoder per chunk (`Spec.runSegs`) on the operations each
chunk's events denote — the first chunk with the implicit time 0, every later chunk from its first timestamp on
(`mt_load_is_store_run`); the tables of the segments add up to the specification's table (`spec_table_joinSegs`).
-/
namespace Wellen.VcdBody
open Wellen.Bits Wellen.Spec Wellen.Store

theorem timesOf_joinSegs (segs : List (List Op)) : timesOf (joinSegs segs) = segs.flatMap timesOf := by
  induction segs with
  | nil => rfl
  | cons sg ss ih =>
    rw [joinSegs_cons]
    simp [timesOf, timesOf_append, ih]

theorem determineChunks_single {len threads minChunk : Nat} (h : threads ≤ 1 ∨ len ≤ minChunk) :
    determineChunks len threads minChunk = [(0, len)] := by
  have hn : max 1 (min threads (divCeil len minChunk)) = 1 := by
    have : threads ≤ 1 ∨ divCeil len minChunk ≤ 1 := h.imp_right fun h => by
      unfold divCeil
      rcases Nat.eq_zero_or_pos minChunk with rfl | hpos
      · simp
      · exact Nat.le_of_lt_succ (Nat.div_lt_of_lt_mul (by omega))
    omega
  unfold determineChunks
  simp only [hn]
  simp [divCeil]

def chunkOps (d : Decls) (rm : RealMap) (body : List Nat) (ch : Nat × Nat) : Option (List Op) :=
  match parseBody (some (ch.2 - 1)) (body.drop ch.1) with
  | .ok evs => opsOfEvs d rm (if ch.1 = 0 then implicitZero evs else fromFirstTime evs)
  | .err _ => none

theorem chunkRes_ok {c : Codec} {d : Decls} {rm : RealMap} {body : List Nat} {ch : Nat × Nat} {enc : Enc}
    (h : chunkRes c d rm body ch = .ok enc) :
    ∃ ops, chunkOps d rm body ch = some ops ∧ runOps c (newEnc d.sigTypes) ops = some enc := by
  unfold chunkRes at h
  split at h
  · cases h
  · obtain ⟨evs, ops, hp, ho, hr⟩ := readStream_ok h
    exact ⟨ops, by simpa [chunkOps, hp] using ho, hr⟩

theorem chunks_ok {c : Codec} {d : Decls} {rm : RealMap} {body : List Nat} {chunks : List (Nat × Nat)}
    (hp : (chunks.map (chunkRes c d rm body)).any Res.isPanic = false) (he : (chunks.map (chunkRes c d rm body)).any Res.isErr = false) :
    ∃ segs, chunks.mapM (chunkOps d rm body) = some segs ∧
      segs.mapM (runOps c (newEnc d.sigTypes)) = some ((chunks.map (chunkRes c d rm body)).filterMap Res.okOf) := by
  induction chunks with
  | nil => exact ⟨[], rfl, rfl⟩
  | cons ch r ih =>
    simp only [List.map_cons, List.any_cons, Bool.or_eq_false_iff] at hp he
    obtain ⟨segs, h1, h2⟩ := ih hp.2 he.2
    cases hr : chunkRes c d rm body ch with
    | panic => rw [hr] at hp; cases hp.1
    | err => rw [hr] at he; cases he.1
    | ok e =>
      obtain ⟨ops, ho, hrun⟩ := chunkRes_ok hr
      refine ⟨ops :: segs, mapM_cons_eq_some.mpr ⟨ops, segs, ho, h1, rfl⟩, ?_⟩
      rw [List.map_cons, hr]
      exact mapM_cons_eq_some.mpr ⟨e, _, hrun, h2, rfl⟩

/-- **a multi-threaded load that succeeds is the store run with one encoder per chunk**: the operations of the first chunk
(with the implicit time 0), a split, the operations of the second chunk from its first timestamp on, a split, … — run by
`Spec.runSegs`, the function `C04_store_refines_spec_all` is about. What remains between this and `mt = st` is purely lexical:
that these operations are those of the whole body (true for hand-over-safe bodies, checked differentially; false otherwise: FMT). -/
theorem mt_load_is_store_run {c : Codec} {d : Decls} {rm : RealMap} {body : List Nat} {threads minChunk : Nat} {enc : Enc}
    (h : readValues c d rm body (.multi threads minChunk) = .ok enc) :
    ∃ seg0 rest, (determineChunks body.length threads minChunk).mapM (chunkOps d rm body) = some (seg0 :: rest) ∧
      (∀ sg ∈ seg0 :: rest, NoSplit sg) ∧ Spec.runSegs c d.sigTypes (seg0 ++ joinSegs rest) = some enc := by
  simp only [readValues] at h
  generalize determineChunks body.length threads minChunk = chunks at h ⊢
  cases hp : (chunks.map (chunkRes c d rm body)).any Res.isPanic with
  | true => simp [hp] at h
  | false =>
  cases he : (chunks.map (chunkRes c d rm body)).any Res.isErr with
  | true => simp [hp, he] at h
  | false =>
  simp only [hp, he, Bool.false_eq_true, ↓reduceIte] at h
  obtain ⟨segs, hs1, hs2⟩ := chunks_ok hp he
  cases henc : (chunks.map (chunkRes c d rm body)).filterMap Res.okOf with
  | nil => rw [henc] at h; cases h
  | cons e0 erest =>
    rw [henc] at h hs2
    simp only at h
    cases hap : appendAll c e0 erest with
    | none => rw [hap] at h; cases h
    | some ef =>
      rw [hap] at h
      cases h
      cases segs with
      | nil => simp at hs2
      | cons seg0 rest =>
        -- every segment was run by an encoder, and `stepOp` refuses a split
        have hns : ∀ sg ∈ seg0 :: rest, NoSplit sg := fun sg hsg =>
          (mapM_some_of_mem hs2 hsg).elim fun e he => runOps_nosplit he
        exact ⟨seg0, rest, hs1, hns, (runSegs_joinSegs hns).mpr ⟨e0, erest, hs2, hap⟩⟩

theorem finishBlock_idem (c : Codec) (x : Enc) : finishBlock c (finishBlock c x) = finishBlock c x :=
  finishBlock_clean c _ (finishBlock_hasNewData c x)

theorem appendAll_table {c : Codec} {encs : List Enc} {a e : Enc} (h : appendAll c a encs = some e) :
    (finish c e).2 = (a :: encs).flatMap (fun b => (finish c b).2) := by
  induction encs generalizing a with
  | nil => cases h; simp
  | cons b r ih =>
    rw [appendAll_cons, Option.bind_eq_some_iff] at h
    obtain ⟨ab, hab, h⟩ := h
    simp only [ih h, List.flatMap_cons, append_table hab, List.append_assoc]

theorem finish_tables_of_runs {c : Codec} {tps : List SigType} {segs : List (List Op)} {encs : List Enc}
    (h : segs.mapM (runOps c (newEnc tps)) = some encs) :
    encs.flatMap (fun b => (finish c b).2) = segs.flatMap (fun sg => strictPrefixMax (timesOf sg)) := by
  induction segs generalizing encs with
  | nil => cases h; rfl
  | cons sg ss ih =>
    obtain ⟨b, bs, hb, hbs, rfl⟩ := mapM_cons_eq_some.mp h
    simp only [List.flatMap_cons, finish_table_of_run hb, ih hbs]

/-- in the specification, the first operation of a segment behind a split is a timestamp greater than the last entry of the
table so far -/
theorem seg_starts_newmax {types : Array SigType} {s s' : Spec.St} {op : Op}
    (hnm : s.ttRev = [] ∨ s.needNewMax = true) (hns : op ≠ .split)
    (h : Step types s op s') : ∃ t, op = .time t ∧ ∀ m ∈ s.ttRev.head?, m < t := by
  -- anything but a first or greater timestamp needs a non-empty table without the mark
  have no : s.ttRev ≠ [] → s.needNewMax = false → False := fun hne hn => by
    rcases hnm with h0 | h1
    · exact hne h0
    · rw [hn] at h1; cases h1
  cases h with
  | first t h0 => exact ⟨t, rfl, by simp [h0]⟩
  | newMax t h0 hlt => exact ⟨t, rfl, by simpa [h0] using hlt⟩
  | noMax _ h0 _ hn => exact (no (by simp [h0]) hn).elim
  | skip _ hn hne | write _ _ hn hne => exact (no hne hn).elim
  | splitEmpty | split => exact absurd rfl hns

/-- the table of a recording divided into segments is the concatenation of the segments' own tables, provided the
specification accepts the division (every later segment opens a new maximum) -/
theorem spec_table_joinSegs {types : Array SigType} {segs : List (List Op)} {pre : List Nat} {s s' : Spec.St}
    (ht : s.ttRev.reverse = strictPrefixMax pre) (hns : ∀ sg ∈ segs, NoSplit sg) (h : foldSpec types (joinSegs segs) s = some s') :
    s'.ttRev.reverse = strictPrefixMax pre ++ segs.flatMap (fun sg => strictPrefixMax (timesOf sg)) := by
  induction segs generalizing pre s with
  | nil => cases h; simpa using ht
  | cons sg ss ih =>
    rw [joinSegs_cons, foldSpec_cons] at h
    obtain ⟨s1, hs1, h⟩ := Option.bind_eq_some_iff.mp h
    obtain ⟨htt1, -, -, -, hnm1⟩ := (Step.of_step hs1).split_cases
    rw [foldSpec_append] at h
    obtain ⟨s2, hsg, h⟩ := Option.bind_eq_some_iff.mp h
    have ht1 : s1.ttRev.reverse = strictPrefixMax pre := by rw [htt1]; exact ht
    obtain ⟨hns0, hns⟩ := List.forall_mem_cons.mp hns
    rw [ih (spec_table hsg ht1) hns h, List.flatMap_cons, ← List.append_assoc]
    congr 1
    -- the segment's own table: its first operation is a timestamp above the table so far
    cases sg with
    | nil => simp [timesOf, strictPrefixMax]
    | cons op r =>
      rw [foldSpec_cons, Option.bind_eq_some_iff] at hsg
      obtain ⟨_, hop, -⟩ := hsg
      obtain ⟨t, rfl, hlt⟩ := seg_starts_newmax hnm1 (hns0 op (by simp)) (.of_step hop)
      refine spm_append_newmax pre t (timesOf r) ?_
      rw [← ht1, List.getLast?_reverse]
      exact hlt

end Wellen.VcdBody
