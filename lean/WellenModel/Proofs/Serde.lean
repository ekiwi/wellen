import WellenModel.Model.Serde
/-! Round trips `ofS (toS x) = some x` for the serde data model of every serialisable type. -/
namespace Wellen.Serde

theorem asNz_nz (n : Nat) (h : 0 < n) : asNz (nz n) = some n := by
  simp [asNz, nz]; omega

theorem asNat_int (n : Nat) : asNat (.int n) = some n := by simp [asNat]

theorem asEnum_mem (names : List String) (s : String) (h : names.contains s = true) :
    asEnum names (.str s) = some s := by
  have : s ∈ names := by simpa using h
  simp [asEnum, this]

theorem mapM_map {α β : Type} (d : β → Option α) (e : α → β) (l : List α) (h : ∀ a ∈ l, d (e a) = some a) :
    (l.map e).mapM d = some l := by
  induction l with
  | nil => rfl
  | cons a r ih =>
    obtain ⟨ha, hr⟩ := List.forall_mem_cons.mp h
    simp only [List.map_cons, List.mapM_cons, ha, ih hr]
    rfl

theorem asList_map {α : Type} (d : SVal → Option α) (e : α → SVal) (l : List α) (h : ∀ a ∈ l, d (e a) = some a) :
    asList d (.seq (l.map e)) = some l := mapM_map d e l h

/-- `Option` round trip for encoders that never produce `null` -/
theorem asOpt_ofOpt {α : Type} (d : SVal → Option α) (e : α → SVal) (o : Option α)
    (hn : ∀ a, e a ≠ .null) (h : ∀ a, o = some a → d (e a) = some a) : asOpt d (ofOpt e o) = some o := by
  cases o with
  | none => rfl
  | some a =>
    -- on anything but `null`, `asOpt d` is `d`
    have : asOpt d (e a) = (d (e a)).map some := by
      have := hn a
      cases he : e a <;> first | exact absurd he this | rfl
    rw [ofOpt, this, h a rfl]; rfl

theorem nz_ne_null (n : Nat) : nz n ≠ .null := by simp [nz]

theorem asOpt_nz (o : Option Nat) (h : ∀ n, o = some n → 0 < n) : asOpt asNz (ofOpt nz o) = some o :=
  asOpt_ofOpt asNz nz o nz_ne_null (fun a ha => asNz_nz a (h a ha))

def VarIndexM.WF (v : VarIndexM) : Prop := v.width ≠ 0
theorem VarIndexM.roundtrip (v : VarIndexM) (h : v.WF) : VarIndexM.ofS v.toS = some v := by
  simp only [VarIndexM.ofS, VarIndexM.toS, asMap, fld, List.lookup, asInt, Option.bind_eq_bind, Option.bind_some,
    String.reduceBEq, if_neg h]

def SigEncM.WF : SigEncM → Prop | .bitvec n => 0 < n | _ => True
theorem SigEncM.roundtrip (v : SigEncM) (h : v.WF) : SigEncM.ofS v.toS = some v := by
  cases v with
  | string => rfl
  | real => rfl
  | bitvec n => simp only [SigEncM.toS, SigEncM.ofS]; exact congrArg _ (asNz_nz n h)

def ItemIdM.WF : ItemIdM → Prop | .scope r => 0 < r | .var r => 0 < r
theorem ItemIdM.roundtrip (v : ItemIdM) (h : v.WF) : ItemIdM.ofS v.toS = some v := by
  cases v with
  | scope r => simp only [ItemIdM.toS, ItemIdM.ofS]; exact congrArg _ (asNz_nz r h)
  | var r => simp only [ItemIdM.toS, ItemIdM.ofS]; exact congrArg _ (asNz_nz r h)

theorem ItemIdM.toS_ne_null (v : ItemIdM) : v.toS ≠ .null := by cases v <;> simp [ItemIdM.toS]
theorem VarIndexM.toS_ne_null (v : VarIndexM) : v.toS ≠ .null := by simp [VarIndexM.toS]

theorem asOpt_itemId (o : Option ItemIdM) (h : ∀ i, o = some i → i.WF) : asOpt ItemIdM.ofS (ofOpt ItemIdM.toS o) = some o :=
  asOpt_ofOpt ItemIdM.ofS ItemIdM.toS o ItemIdM.toS_ne_null (fun a ha => ItemIdM.roundtrip a (h a ha))

def optPos (o : Option Nat) : Prop := ∀ n, o = some n → 0 < n

structure VarM.WF (v : VarM) : Prop where
  name : 0 < v.name
  tpe : varTypes.contains v.varTpe = true
  dir : directions.contains v.direction = true
  enc : v.signalEncoding.WF
  index : ∀ i, v.index = some i → i.WF
  sig : 0 < v.signalIdx
  enumType : optPos v.enumType
  typeName : optPos v.vhdlTypeName
  parent : optPos v.parent
  next : ∀ i, v.next = some i → i.WF

theorem VarM.roundtrip (v : VarM) (h : v.WF) : VarM.ofS v.toS = some v := by
  simp only [VarM.ofS, VarM.toS, asMap, fld, List.lookup, Option.bind_eq_bind, Option.bind_some, String.reduceBEq]
  rw [asNz_nz _ h.name, asEnum_mem _ _ h.tpe, asEnum_mem _ _ h.dir, SigEncM.roundtrip _ h.enc,
    asOpt_ofOpt VarIndexM.ofS VarIndexM.toS v.index VarIndexM.toS_ne_null (fun a ha => VarIndexM.roundtrip a (h.index a ha)),
    asNz_nz _ h.sig, asOpt_nz _ h.enumType, asOpt_nz _ h.typeName, asOpt_nz _ h.parent, asOpt_itemId _ h.next]
  rfl

structure ScopeM.WF (v : ScopeM) : Prop where
  name : 0 < v.name
  component : optPos v.component
  tpe : scopeTypes.contains v.tpe = true
  decl : optPos v.declarationSource
  inst : optPos v.instanceSource
  child : ∀ i, v.child = some i → i.WF
  parent : optPos v.parent
  next : ∀ i, v.next = some i → i.WF

theorem ScopeM.roundtrip (v : ScopeM) (h : v.WF) : ScopeM.ofS v.toS = some v := by
  simp only [ScopeM.ofS, ScopeM.toS, asMap, fld, List.lookup, Option.bind_eq_bind, Option.bind_some, String.reduceBEq]
  rw [asNz_nz _ h.name, asOpt_nz _ h.component, asEnum_mem _ _ h.tpe, asOpt_nz _ h.decl, asOpt_nz _ h.inst,
    asOpt_itemId _ h.child, asOpt_nz _ h.parent, asOpt_itemId _ h.next]
  rfl

theorem SourceLocM.roundtrip (v : SourceLocM) (h : 0 < v.path) : SourceLocM.ofS v.toS = some v := by
  simp only [SourceLocM.ofS, SourceLocM.toS, asMap, fld, List.lookup, Option.bind_eq_bind, Option.bind_some, String.reduceBEq]
  rw [asNz_nz _ h, asNat_int]
  rfl

theorem pair_roundtrip (p : Nat × Nat) (h : 0 < p.1 ∧ 0 < p.2) : pairOfS (pairToS p) = some p := by
  simp only [pairOfS, pairToS, Option.bind_eq_bind]
  rw [asNz_nz _ h.1, asNz_nz _ h.2]
  rfl

def EnumTypeM.WF (v : EnumTypeM) : Prop := 0 < v.name ∧ ∀ p ∈ v.mapping, 0 < p.1 ∧ 0 < p.2
theorem EnumTypeM.roundtrip (v : EnumTypeM) (h : v.WF) : EnumTypeM.ofS v.toS = some v := by
  simp only [EnumTypeM.ofS, EnumTypeM.toS, asMap, fld, List.lookup, Option.bind_eq_bind, Option.bind_some, String.reduceBEq]
  rw [asNz_nz _ h.1, asList_map pairOfS pairToS v.mapping (fun p hp => pair_roundtrip p (h.2 p hp))]
  rfl

theorem SliceM.roundtrip (v : SliceM) (h : 0 < v.slicedSignal) : SliceM.ofS v.toS = some v := by
  simp only [SliceM.ofS, SliceM.toS, asMap, fld, List.lookup, Option.bind_eq_bind, Option.bind_some, String.reduceBEq]
  rw [asNat_int, asNat_int, asNz_nz _ h]
  rfl

theorem TimescaleM.roundtrip (v : TimescaleM) (h : units.contains v.unit = true) : TimescaleM.ofS v.toS = some v := by
  simp only [TimescaleM.ofS, TimescaleM.toS, asMap, fld, List.lookup, Option.bind_eq_bind, Option.bind_some, String.reduceBEq]
  rw [asNat_int, asEnum_mem _ _ h]
  rfl

theorem TimescaleM.toS_ne_null (v : TimescaleM) : v.toS ≠ .null := by simp [TimescaleM.toS]

def MetaM.WF (v : MetaM) : Prop :=
  (∀ t, v.timescale = some t → units.contains t.unit = true) ∧ formats.contains v.fileFormat = true
theorem MetaM.roundtrip (v : MetaM) (h : v.WF) : MetaM.ofS v.toS = some v := by
  simp only [MetaM.ofS, MetaM.toS, asMap, fld, List.lookup, Option.bind_eq_bind, Option.bind_some, String.reduceBEq]
  rw [asOpt_ofOpt TimescaleM.ofS TimescaleM.toS v.timescale TimescaleM.toS_ne_null
        (fun a ha => TimescaleM.roundtrip a (h.1 a ha)),
    asList_map asStr SVal.str v.comments (fun _ _ => rfl), asEnum_mem _ _ h.2]
  rfl

/-- the decimal text of a positive number parses back to it (`String::parse::<u32>` on what `to_string` wrote):
the one fact about number formatting this model relies on, stated as a hypothesis of the map round trip -/
def KeyOk (k : Nat) : Prop := 0 < k ∧ (toString k).toNat? = some k

def HierM.WF (h : HierM) : Prop :=
  (∀ v ∈ h.vars, v.WF) ∧ (∀ s ∈ h.scopes, s.WF) ∧ (∀ i, h.firstItem = some i → i.WF) ∧
  (∀ l ∈ h.sourceLocs, 0 < l.path) ∧ (∀ e ∈ h.enums, e.WF) ∧ (∀ o ∈ h.signalIdxToVar, optPos o) ∧
  h.metaData.WF ∧ (∀ p ∈ h.slices, KeyOk p.1 ∧ 0 < p.2.slicedSignal)

theorem sliceEntry_roundtrip (p : Nat × SliceM) (h : KeyOk p.1 ∧ 0 < p.2.slicedSignal) :
    sliceEntryOfS (sliceEntryToS p) = some p := by
  simp only [sliceEntryOfS, sliceEntryToS, Option.bind_eq_bind, h.1.2, Option.bind_some]
  have : ¬ p.1 = 0 := by have := h.1.1; omega
  simp only [this, ↓reduceIte]
  rw [SliceM.roundtrip _ h.2]
  rfl

def FwEncM.WF : FwEncM → Prop | .bitVector ms _ _ => statesNames.contains ms = true | .real => True
theorem FwEncM.roundtrip (v : FwEncM) (h : v.WF) : FwEncM.ofS v.toS = some v := by
  cases v with
  | real => rfl
  | bitVector ms b mb =>
    simp only [FwEncM.ofS, FwEncM.toS, fld, List.lookup, Option.bind_eq_bind, Option.bind_some, String.reduceBEq]
    rw [asEnum_mem _ _ h, asNat_int]
    rfl

def ChangeDataM.WF : ChangeDataM → Prop | .fixed e _ _ => e.WF | .varLen _ => True
theorem ChangeDataM.roundtrip (v : ChangeDataM) (h : v.WF) : ChangeDataM.ofS v.toS = some v := by
  cases v with
  | varLen s =>
    simp only [ChangeDataM.ofS, ChangeDataM.toS]
    rw [asList_map asStr SVal.str s (fun _ _ => rfl)]; rfl
  | fixed e w b =>
    simp only [ChangeDataM.ofS, ChangeDataM.toS, fld, List.lookup, Option.bind_eq_bind, Option.bind_some, String.reduceBEq]
    rw [FwEncM.roundtrip e h, asNat_int, asList_map asNat (fun (x : Nat) => SVal.int x) b (fun a _ => asNat_int a)]
    rfl

end Wellen.Serde
