import WellenModel.Model.Spec
/-! The transitions of the specification as a relation (`Step`), equivalent to `Spec.step`: what `step` preserves is proved by
cases on `Step`, and carried along a history by `foldSpec_induct`. Also the equations of the folds and of `Array.set` that
the later files share. -/
namespace Wellen.Spec
open Wellen.Store Wellen.Bits

def foldSpec (types : Array SigType) (ops : List Op) (s : St) : Option St :=
  ops.foldl (fun acc op => acc.bind (fun s => step types s op)) (some s)

theorem foldSpec_none (types : Array SigType) (ops : List Op) :
    ops.foldl (fun acc op => acc.bind (fun s => step types s op)) none = none := by
  induction ops with
  | nil => rfl
  | cons o r ih => simpa using ih

theorem foldSpec_append (types : Array SigType) (a b : List Op) (s : St) :
    foldSpec types (a ++ b) s = (foldSpec types a s).bind (foldSpec types b) := by
  simp only [foldSpec, List.foldl_append]
  cases List.foldl _ (some s) a with
  | none => exact foldSpec_none types b
  | some s' => rfl

theorem foldSpec_cons (types : Array SigType) (o : Op) (ops : List Op) (s : St) :
    foldSpec types (o :: ops) s = (step types s o).bind (foldSpec types ops) :=
  foldSpec_append types [o] ops s

theorem runOps_cons (c : Codec) (e : Enc) (op : Op) (rest : List Op) :
    runOps c e (op :: rest) = (stepOp c e op).bind fun e' => runOps c e' rest := by
  simp only [runOps]; cases stepOp c e op <;> rfl

theorem mapM_cons_eq_some {α β : Type} {f : α → Option β} {a : α} {l : List α} {r : List β} :
    (a :: l).mapM f = some r ↔ ∃ b r', f a = some b ∧ l.mapM f = some r' ∧ r = b :: r' := by
  cases h : f a <;> cases h' : l.mapM f <;> simp [List.mapM_cons, h, h', eq_comm]

theorem mapM_some_of_mem {α β : Type} {f : α → Option β} {l : List α} {r : List β} (h : l.mapM f = some r)
    {x : α} (hx : x ∈ l) : ∃ y, f x = some y := by
  induction l generalizing r with
  | nil => cases hx
  | cons a l ih =>
    obtain ⟨b, r', hb, hl, rfl⟩ := mapM_cons_eq_some.mp h
    rcases List.mem_cons.mp hx with rfl | hx
    · exact ⟨b, hb⟩
    · exact ih hl hx

theorem getD_set {α : Type} (xs : Array α) (j : Nat) (hj : j < xs.size) (v d : α) (i : Nat) :
    (xs.set j v hj).getD i d = if j = i then v else xs.getD i d := by
  rw [Array.getD_eq_getD_getElem?, Array.getElem?_set, Array.getD_eq_getD_getElem?]; split <;> rfl

theorem getElem?_toList_set {α : Type} (xs : Array α) (j : Nat) (hj : j < xs.size) (v : α) (i : Nat) :
    (xs.set j v hj).toList[i]? = if j = i then some v else xs.toList[i]? := by
  simp only [Array.getElem?_toList, Array.getElem?_set]

theorem record_eq_some {s s' : St} {j : Nat} {v : Value} :
    record s j v = some s' ↔
      ∃ hj : j < s.changesRev.size, s' = { s with changesRev := s.changesRev.set j ((s.ttLen - 1, v) :: s.changesRev[j]) } := by
  unfold record
  split
  · rename_i hj; simp only [Option.some.injEq]; exact ⟨fun h => ⟨hj, h.symm⟩, fun ⟨_, h⟩ => h.symm⟩
  · rename_i hj; exact ⟨fun h => (by cases h), fun ⟨h, _⟩ => absurd h hj⟩

/-- `op` writes the value `v` to signal `j` -/
inductive Writes (types : Array SigType) : Op → Nat → Value → Prop
  | vcd {j tp value r v} : types[j]? = some tp → vcdValue tp value r = some v → Writes types (.vcd j value r) j v
  | raw {j tp st b v} : types[j]? = some tp → rawValue tp st b = some v → Writes types (.raw j st b) j v
  | real {j le} : types[j]? = some .real → le.length = 8 → Writes types (.real j le) j (.real le)

inductive Step (types : Array SigType) (s : St) : Op → St → Prop
  | first (t) : s.ttRev = [] → Step types s (.time t) { s with ttRev := [t], ttLen := 1, skipping := false, needNewMax := false }
  | newMax (t) {m r} : s.ttRev = m :: r → m < t →
      Step types s (.time t) { s with ttRev := t :: s.ttRev, ttLen := s.ttLen + 1, skipping := false, needNewMax := false }
  | noMax (t) {m r} : s.ttRev = m :: r → t ≤ m → s.needNewMax = false → Step types s (.time t) { s with skipping := decide (t < m) }
  | splitEmpty : s.ttRev = [] → Step types s .split s
  | split : s.ttRev ≠ [] → Step types s .split { s with needNewMax := true }
  | skip {op j v} : Writes types op j v → s.needNewMax = false → s.ttRev ≠ [] → s.skipping = true → Step types s op s
  | write {op j v} (hj : j < s.changesRev.size) : Writes types op j v → s.needNewMax = false → s.ttRev ≠ [] → s.skipping = false →
      Step types s op { s with changesRev := s.changesRev.set j ((s.ttLen - 1, v) :: s.changesRev[j]) }

theorem Writes.not_time_split {types : Array SigType} {op : Op} {j : Nat} {v : Value} (h : Writes types op j v) :
    (∀ t, op ≠ .time t) ∧ op ≠ .split := by cases h <;> exact ⟨fun _ => nofun, nofun⟩

theorem step_of_writes {types : Array SigType} {op : Op} {j : Nat} {v : Value} (h : Writes types op j v) (s : St) :
    step types s op =
      if s.needNewMax = true ∨ s.ttRev.isEmpty = true then none else if s.skipping = true then some s else record s j v := by
  cases h with
  | vcd h1 h2 => simp only [step, h1, h2]
  | raw h1 h2 => simp only [step, h1, h2]
  | real h1 h2 => simp only [step, h1, h2, if_true]

theorem Step.of_write {types : Array SigType} {s s' : St} {op : Op} {j : Nat} {v : Value} (hw : Writes types op j v)
    (hg : ¬ (s.needNewMax = true ∨ s.ttRev.isEmpty = true))
    (h : (if s.skipping = true then some s else record s j v) = some s') : Step types s op s' := by
  have hn : s.needNewMax = false := Bool.eq_false_iff.mpr fun h => hg (.inl h)
  have he : s.ttRev ≠ [] := fun h => hg (Or.inr (by simp [h]))
  split at h
  · cases h; exact .skip hw hn he ‹_›
  · obtain ⟨hj, rfl⟩ := record_eq_some.mp h
    exact .write hj hw hn he (by simpa using ‹¬ s.skipping = true›)

theorem Step.of_step {types : Array SigType} {s s' : St} {op : Op} (h : step types s op = some s') : Step types s op s' := by
  cases op with
  | time t =>
    simp only [step] at h
    split at h
    · cases h; exact .first t ‹_›
    · rename_i m r hr
      split at h
      · cases h; exact .newMax t hr ‹_›
      · split at h
        · cases h
        · have hn : s.needNewMax = false := by simpa using ‹¬ s.needNewMax = true›
          have hle : t ≤ m := by omega
          have hS := Step.noMax (types := types) t hr hle hn
          split at h <;> cases h
          · simpa [‹t = m›] using hS
          · have hlt : t < m := by omega
            simpa [hlt] using hS
  | split =>
    simp only [step] at h
    split at h <;> cases h
    · exact .splitEmpty (by simpa using ‹s.ttRev.isEmpty = true›)
    · exact .split (by simpa using ‹¬ s.ttRev.isEmpty = true›)
  | vcd j value r =>
    simp only [step] at h
    split at h
    · cases h
    · split at h
      · cases h
      · split at h
        · cases h
        · exact .of_write (.vcd ‹_› ‹_›) ‹_› h
  | raw j st b =>
    simp only [step] at h
    split at h
    · cases h
    · split at h
      · cases h
      · split at h
        · cases h
        · exact .of_write (.raw ‹_› ‹_›) ‹_› h
  | real j le =>
    simp only [step] at h
    split at h
    · cases h
    · split at h
      · split at h
        · exact .of_write (.real ‹_› ‹_›) ‹_› h
        · cases h
      · cases h

theorem Step.to_step {types : Array SigType} {s s' : St} {op : Op} (h : Step types s op s') : step types s op = some s' := by
  cases h with
  | first t h => simp [step, h]
  | newMax t h hlt => simp [step, h, hlt]
  | @noMax t m _ h hle hn =>
    simp only [step, h, Nat.not_lt.mpr hle, hn, ↓reduceIte, Bool.false_eq_true]
    by_cases he : t = m
    · simp [he]
    · simp [he, Nat.lt_of_le_of_ne hle he]
  | splitEmpty h => simp [step, h]
  | split h => simp [step, h]
  | skip hw hn he hs => rw [step_of_writes hw]; simp [hn, he, hs]
  | write hj hw hn he hs => rw [step_of_writes hw]; simp [hn, he, hs, record, hj]

theorem Step.classify {types : Array SigType} {s s' : St} {op : Op} (h : Step types s op s') :
    (∃ t, op = .time t) ∨ op = .split ∨
      ∃ j v, Writes types op j v ∧ (if s.skipping = true then some s else record s j v) = some s' := by
  cases h with
  | first t | newMax t | noMax t => exact .inl ⟨t, rfl⟩
  | splitEmpty | split => exact .inr (.inl rfl)
  | skip hw _ _ hs => exact .inr (.inr ⟨_, _, hw, by simp [hs]⟩)
  | write hj hw _ _ hs => exact .inr (.inr ⟨_, _, hw, by simp [hs, record, hj]⟩)

theorem Step.time_le {types : Array SigType} {s s' : St} {t m : Nat} (h : Step types s (.time t) s')
    (hm : s.ttRev.head? = some m) (hle : t ≤ m) : s' = { s with skipping := decide (t < m) } := by
  cases h with
  | first _ h0 => rw [h0] at hm; cases hm
  | newMax _ h0 hlt => rw [h0] at hm; cases hm; exact absurd hlt (Nat.not_lt.mpr hle)
  | noMax _ h0 => rw [h0] at hm; cases hm; rfl
  | skip hw | write _ hw => exact absurd rfl (hw.not_time_split.1 t)

theorem Step.time_gt {types : Array SigType} {s s' : St} {t : Nat} (h : Step types s (.time t) s') (hw : s.ttLen = s.ttRev.length)
    (hgt : (∀ m ∈ s.ttRev.head?, m < t) ∨ s.needNewMax = true) :
    s' = { s with ttRev := t :: s.ttRev, ttLen := s.ttLen + 1, skipping := false, needNewMax := false } := by
  cases h with
  | first _ h0 => simp [h0, hw]
  | newMax => rfl
  | noMax _ h0 hle hn =>
    rcases hgt with hgt | hgt
    · exact absurd (hgt _ (by rw [h0]; rfl)) (Nat.not_lt.mpr hle)
    · rw [hn] at hgt; cases hgt
  | skip hw | write _ hw => exact absurd rfl (hw.not_time_split.1 t)

theorem Step.split_cases {types : Array SigType} {s s' : St} (h : Step types s .split s') :
    s'.ttRev = s.ttRev ∧ s'.ttLen = s.ttLen ∧ s'.skipping = s.skipping ∧ s'.changesRev = s.changesRev ∧
      (s'.ttRev = [] ∨ s'.needNewMax = true) := by
  cases h with
  | splitEmpty h => exact ⟨rfl, rfl, rfl, rfl, .inl h⟩
  | split h => exact ⟨rfl, rfl, rfl, rfl, .inr rfl⟩
  | skip hw | write _ hw => exact absurd rfl hw.not_time_split.2

theorem foldSpec_induct {types : Array SigType} (R : List Op → St → Prop)
    (hstep : ∀ {done s op s'}, R done s → Step types s op s' → R (done ++ [op]) s')
    {ops : List Op} (done : List Op) {s s' : St} (h0 : R done s) (h : foldSpec types ops s = some s') : R (done ++ ops) s' := by
  induction ops generalizing done s with
  | nil => cases h; simpa using h0
  | cons op r ih =>
    rw [foldSpec_cons, Option.bind_eq_some_iff] at h
    obtain ⟨s1, hs, h⟩ := h
    simpa using ih (done ++ [op]) (hstep h0 (.of_step hs)) h

end Wellen.Spec

namespace Wellen.Store

def specInit (tps : List SigType) : Spec.St := { changesRev := (tps.map fun _ => []).toArray }

end Wellen.Store

namespace Wellen.Spec
open Wellen.Store

theorem run_eq (tps : List SigType) (ops : List Op) : run tps ops =
    (foldSpec tps.toArray ops (specInit tps)).bind fun s =>
      if s.needNewMax then none else some (s.ttRev.reverse, s.changesRev.toList.map (fun l => canon l.reverse)) := by
  simp only [run, foldSpec, specInit]
  split <;> simp [*]

theorem run_fold {tps : List SigType} {ops : List Op} {tt : List Nat} {sigs : List (List (Nat × Value))}
    (h : run tps ops = some (tt, sigs)) :
    ∃ s, foldSpec tps.toArray ops (specInit tps) = some s ∧ tt = s.ttRev.reverse ∧
      sigs = s.changesRev.toList.map (fun l => canon l.reverse) := by
  rw [run_eq, Option.bind_eq_some_iff] at h
  obtain ⟨s, hs, h⟩ := h
  split at h
  · cases h
  · cases h; exact ⟨s, hs, rfl, rfl⟩

theorem specInit_getD (tps : List SigType) (i : Nat) : (specInit tps).changesRev.getD i [] = [] := by
  simp only [specInit, Array.getD_eq_getD_getElem?, List.getElem?_toArray, List.getElem?_map]
  cases tps[i]? <;> rfl

end Wellen.Spec
