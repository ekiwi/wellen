import WellenModel.Proofs.Block
import WellenModel.Proofs.Canon
import WellenModel.Proofs.Slice
/-!
The write side of one block: what `add_vcd_change` / `add_n_bit_change` append is a well-formed chunk, a sequence of such calls
leaves a chunk stream, and after `finish_block` the loader returns one entry per call at the call's time index.
-/
namespace Wellen.Store
open Wellen.Bits Wellen.Spec

/-- **the VCD text path appends a well-formed chunk**: a successful `add_vcd_change` on a multi-bit signal appends
LEB128(delta << 2 | kind) followed by the packing of exactly `bits` symbols, which fit the kind recorded in the header -/
theorem addVcd_chunk {ti : Nat} {value : List Nat} {realLe : Option (List Nat)} {s s' : SigEnc} {bits : Nat}
    (ht : s.tpe = .bitvec bits) (hb : bits ≠ 1) (h : addVcd ti value realLe s = some s') :
    ∃ st nums, nums.length = bits ∧ (∀ v ∈ nums, v < 9) ∧ (∀ v ∈ nums, v < 2 ^ st.bits) ∧
      s' = { s with chunks := encChange (ti - s.prevTimeIdx) st (writeNState st nums none) :: s.chunks, prevTimeIdx := ti,
                    maxStates := States.join s.maxStates st } := by
  obtain ⟨st, chars, nums, hst, hch, hn, rfl⟩ := addVcd_vec ht hb h
  obtain ⟨n0, hn0, rfl⟩ := checkStates_minimal _ st hst
  -- bringing the token to the signal's width keeps its smallest kind
  obtain ⟨hnl, hk, -⟩ := toWidth_nums hch hn0 hn
  exact ⟨_, nums, hnl, charsToNums_lt hn, hk ▸ kindOf_fits (charsToNums_lt hn), rfl⟩

/-- **the pre-encoded path (GHW) appends a well-formed chunk**: a successful `add_n_bit_change` on a multi-bit signal appends
LEB128(delta << 2 | kind) followed by exactly ceil(bits / symbols per byte of that kind) bytes -/
theorem addNBit_chunk {ti : Nat} {value : List Nat} {st : States} {s s' : SigEnc} {bits : Nat}
    (ht : s.tpe = .bitvec bits) (hb : bits ≠ 1) (h : addNBit ti value st s = some s') :
    ∃ loc body, body.length = divCeil bits loc.bib ∧
      s' = { s with chunks := encChange (ti - s.prevTimeIdx) loc body :: s.chunks, prevTimeIdx := ti,
                    maxStates := States.join s.maxStates st } := by
  obtain ⟨v, -, hvl, rfl⟩ := addNBit_vec ht hb h
  refine ⟨checkMinState v st, _, ?_, rfl⟩
  split
  · rename_i heq; rw [heq]; exact hvl
  · exact Wellen.Slice.compressTemplate_length st _ _ bits (by rw [hvl]; exact (divCeil_window bits st.bib (bib_pos st)).1)

/-- consecutive differences of the time indices at which changes are recorded, starting from `p` -/
def deltasFrom (p : Nat) : List Nat → List Nat
  | [] => []
  | t :: r => (t - p) :: deltasFrom t r

theorem deltasFrom_lt {l : List Nat} {B : Nat} (h : ∀ t ∈ l, t < B) (p : Nat) : ∀ d ∈ deltasFrom p l, d < B := by
  induction l generalizing p with
  | nil => nofun
  | cons t r ih =>
    obtain ⟨ht, hr⟩ := List.forall_mem_cons.mp h
    exact List.forall_mem_cons.mpr ⟨Nat.lt_of_le_of_lt (Nat.sub_le t p) ht, ih hr t⟩

theorem absolutise_times {l : List Nat} {p : Nat} {cs : List (Nat × States × List Nat)} (h : cs.map (·.1) = deltasFrom p l)
    (hs : l.Pairwise (· ≤ ·)) (hp : ∀ t ∈ l, p ≤ t) : (absolutise p cs).map (·.1) = l := by
  induction l generalizing p cs with
  | nil => rw [List.map_eq_nil_iff.mp h]; rfl
  | cons t r ih =>
    cases cs with
    | nil => cases h
    | cons c cs =>
      obtain ⟨hc, hcs⟩ := List.cons.inj h
      obtain ⟨hpt, -⟩ := List.forall_mem_cons.mp hp
      obtain ⟨hr, hs⟩ := List.pairwise_cons.mp hs
      have e : p + c.1 = t := by rw [show c.1 = t - p from hc]; omega
      simp only [absolutise, List.map_cons, e]
      exact congrArg (t :: ·) (ih hcs hs hr)

/-- a sequence of `add_vcd_change` calls (time index, value token) on one signal; `none` = some call is rejected -/
def vcdWrites (s0 : SigEnc) : List (Nat × List Nat) → Option SigEnc
  | [] => some s0
  | c :: r => match addVcd c.1 c.2 none s0 with
    | none => none
    | some s1 => vcdWrites s1 r

theorem vcdWrites_cons (s : SigEnc) (c : Nat × List Nat) (r : List (Nat × List Nat)) :
    vcdWrites s (c :: r) = (addVcd c.1 c.2 none s).bind fun s1 => vcdWrites s1 r := by
  rw [vcdWrites]; cases addVcd c.1 c.2 none s <;> rfl

/-- a sequence of `add_n_bit_change` calls (time index, pre-encoded bytes, kind) on one signal -/
def rawWrites (s0 : SigEnc) : List (Nat × List Nat × States) → Option SigEnc
  | [] => some s0
  | c :: r => match addNBit c.1 c.2.1 c.2.2 s0 with
    | none => none
    | some s1 => rawWrites s1 r

theorem rawWrites_cons (s : SigEnc) (c : Nat × List Nat × States) (r : List (Nat × List Nat × States)) :
    rawWrites s (c :: r) = (addNBit c.1 c.2.1 c.2.2 s).bind fun s1 => rawWrites s1 r := by
  rw [rawWrites]; cases addNBit c.1 c.2.1 c.2.2 s <;> rfl

/-- calls that each put one chunk in front, stamped with the distance to the previous call, leave a chunk stream. `run` (`vcdWrites`,
`rawWrites`) is the fold of the partial step `f` (`run` comes first so that `α` is known when the other arguments are elaborated); `I`
is what the calls preserve; `Q s x`: what is known of a chunk `x` in state `s`, kept by later calls (so that it may mention the signal's
widest kind, which only grows) -/
theorem writes_stream {α β : Type} (run : SigEnc → List α → Option SigEnc) (f : α → SigEnc → Option SigEnc)
    (hnil : ∀ s, run s [] = some s) (hcons : ∀ s c r, run s (c :: r) = (f c s).bind fun s1 => run s1 r)
    (time : α → Nat) (enc1 : Nat × β → List Nat) (I : SigEnc → Prop) (Q : SigEnc → β → Prop)
    (hstep : ∀ c s s', I s → f c s = some s' → I s' ∧ s'.prevTimeIdx = time c ∧ (∀ x, Q s x → Q s' x) ∧
      ∃ x, Q s' x ∧ s'.chunks = enc1 (time c - s.prevTimeIdx, x) :: s.chunks)
    (calls : List α) (s0 s : SigEnc) (h0 : I s0) (h : run s0 calls = some s) :
    (∀ x, Q s0 x → Q s x) ∧
    ∃ xs : List (Nat × β), s.dataBytes = s0.dataBytes ++ (xs.map enc1).flatten ∧
      xs.map (·.1) = deltasFrom s0.prevTimeIdx (calls.map time) ∧ ∀ x ∈ xs, Q s x.2 := by
  induction calls generalizing s0 with
  | nil =>
    cases (hnil s0).symm.trans h
    exact ⟨fun _ h => h, [], by simp, rfl, nofun⟩
  | cons c r ih =>
    rw [hcons, Option.bind_eq_some_iff] at h
    obtain ⟨s1, h1, h⟩ := h
    obtain ⟨hI, hprev, hQ, x, hx, hch⟩ := hstep c s0 s1 h0 h1
    obtain ⟨hkeep, xs, hd, hdl, hpay⟩ := ih s1 hI h
    refine ⟨fun y hy => hkeep y (hQ y hy), (time c - s0.prevTimeIdx, x) :: xs, ?_, by simp [deltasFrom, hdl, hprev],
      List.forall_mem_cons.mpr ⟨hkeep x hx, hpay⟩⟩
    rw [hd, dataBytes_cons hch]
    simp

/-- **the data a signal accumulates through the VCD text path is a well-formed chunk stream** whose deltas are the differences
of the time indices of the calls and whose payloads are packings of exactly `bits` symbols that fit the kind in the header, itself
at most the signal's widest kind -/
theorem vcdWrites_stream (bits : Nat) (hb : bits ≠ 1) (calls : List (Nat × List Nat)) (s0 s : SigEnc)
    (ht : s0.tpe = .bitvec bits) (h : vcdWrites s0 calls = some s) :
    ∃ cs : List Change,
      s.dataBytes = s0.dataBytes ++ encStream cs ∧ cs.map (·.1) = deltasFrom s0.prevTimeIdx (calls.map (·.1)) ∧
      ∀ c ∈ cs, (∃ nums, nums.length = bits ∧ (∀ v ∈ nums, v < 9) ∧ (∀ v ∈ nums, v < 2 ^ c.2.1.bits) ∧
        c.2.2 = writeNState c.2.1 nums none) ∧ c.2.1.toNat ≤ s.maxStates.toNat :=
  (writes_stream (β := States × List Nat) vcdWrites (fun c => addVcd c.1 c.2 none) (fun _ => rfl) vcdWrites_cons
    (·.1) (fun c => encChange c.1 c.2.1 c.2.2) (·.tpe = .bitvec bits)
    (fun s x => (∃ nums : List Nat, nums.length = bits ∧ (∀ v ∈ nums, v < 9) ∧ (∀ v ∈ nums, v < 2 ^ x.1.bits) ∧
      x.2 = writeNState x.1 nums none) ∧ x.1.toNat ≤ s.maxStates.toNat)
    (fun c s s' ht h => by
      obtain ⟨st, nums, hlen, hlt, hfit, rfl⟩ := addVcd_chunk ht hb h
      exact ⟨ht, rfl, fun x hx => ⟨hx.1, Nat.le_trans hx.2 (join_ge_left _ _)⟩,
        (st, writeNState st nums none), ⟨⟨nums, hlen, hlt, hfit, rfl⟩, join_ge_right _ _⟩, rfl⟩)
    calls s0 s ht h).2

theorem vcdWrites_stream_onebit (calls : List (Nat × List Nat)) (s0 s : SigEnc)
    (ht : s0.tpe = .bitvec 1) (h : vcdWrites s0 calls = some s) :
    ∃ cs : List (Nat × Nat), s.dataBytes = s0.dataBytes ++ encOneBit cs ∧
      cs.map (·.1) = deltasFrom s0.prevTimeIdx (calls.map (·.1)) ∧ (∀ x ∈ cs, x.2 < 9) :=
  (writes_stream vcdWrites (fun c => addVcd c.1 c.2 none) (fun _ => rfl) vcdWrites_cons
    (·.1) (fun c => lebWrite ((c.1 <<< 4) + c.2)) (·.tpe = .bitvec 1) (fun _ v => v < 9)
    (fun cl s s' ht h => by
      obtain ⟨c, _, bv, _, hc, rfl⟩ := addVcd_bit ht h
      exact ⟨ht, rfl, fun _ hx => hx, bv, (bitChar_some c bv hc).1, rfl⟩)
    calls s0 s ht h).2

theorem rawWrites_stream (bits : Nat) (hb : bits ≠ 1) (calls : List (Nat × List Nat × States)) (s0 s : SigEnc)
    (ht : s0.tpe = .bitvec bits) (h : rawWrites s0 calls = some s) :
    ∃ cs : List Change,
      s.dataBytes = s0.dataBytes ++ encStream cs ∧ cs.map (·.1) = deltasFrom s0.prevTimeIdx (calls.map (·.1)) ∧
      ∀ c ∈ cs, c.2.2.length = divCeil bits c.2.1.bib :=
  (writes_stream (β := States × List Nat) rawWrites (fun c => addNBit c.1 c.2.1 c.2.2) (fun _ => rfl) rawWrites_cons
    (·.1) (fun c => encChange c.1 c.2.1 c.2.2) (·.tpe = .bitvec bits) (fun _ x => x.2.length = divCeil bits x.1.bib)
    (fun c s s' ht h => by
      obtain ⟨loc, body, hlen, rfl⟩ := addNBit_chunk ht hb h
      exact ⟨ht, rfl, fun _ hx => hx, (loc, body), hlen, rfl⟩)
    calls s0 s ht h).2

/-- a vector signal whose data is the chunk stream `cs`, stamped with the differences of the non-decreasing time indices `times`
(below 2^30, so that every chunk header fits 32 bits): one block later it is loaded as those chunks at those time indices -/
theorem block_roundtrip_of_stream (c : Codec) {signals : Array SigEnc} {i : Nat} {s : SigEnc} {bits : Nat} (tt : List Nat) (t0 : Nat)
    {times : List Nat} {cs : List Change} (hb : bits ≠ 1) (hne : times ≠ []) (hs : signals.toList[i]? = some s)
    (hd : s.dataBytes = encStream cs) (hdl : cs.map (·.1) = deltasFrom 0 times)
    (hpay : ∀ x ∈ cs, x.2.2.length = divCeil bits x.2.1.bib)
    (hsorted : times.Pairwise (· ≤ ·)) (hsmall : ∀ t ∈ times, t < 2 ^ 30) (hlen : divCeil s.dataBytes.length 32 < 2 ^ 32) :
    (absolutise 0 cs).map (·.1) = times ∧
    (let r := finishSignals c signals
     let b : Block := { startTime := t0, timeTable := tt, offsets := r.2.1, data := r.2.2 }
     loadSignal { blocks := [b] } i (.bitvec bits) =
       some { maxStates := s.maxStates,
              times := (replayAbs bits s.maxStates (absolutise 0 cs) {}).timesRev.reverse,
              entries := (replayAbs bits s.maxStates (absolutise 0 cs) {}).entriesRev.reverse }) := by
  refine ⟨absolutise_times hdl hsorted fun _ _ => Nat.zero_le _, ?_⟩
  have hcs : ∀ x ∈ cs, x.2.2.length = divCeil bits x.2.1.bib ∧ ((x.1 <<< 2) ||| x.2.1.toNat) < 2 ^ 32 := fun x hx =>
    ⟨hpay x hx, chunkHeader_lt x.1 x.2.1 (deltasFrom_lt hsmall 0 _ (hdl ▸ List.mem_map_of_mem hx))⟩
  have := loadSignal_one c (.bitvec bits) tt t0 encChange_ne_nil hs hd
    (by rintro rfl; cases times <;> simp [deltasFrom] at hdl hne) (show divCeil (encStream cs).length 32 < 2 ^ 32 from hd ▸ hlen)
    fun fuel hf => loadFixed_stream bits hb s.maxStates cs hcs fuel 0 {} hf
  simp only at this ⊢
  rw [this, replayFixed_abs]

end Wellen.Store
