import WellenModel.Proofs.Fst
import WellenModel.Proofs.PushCanon
/-! The FST `SignalWriter` refines the canonical change list: widening (`expand_entries`) for every value, the entry layout and the
byte-wise de-duplication, for every sequence of callbacks. -/
namespace Wellen.Fst
open Wellen.Bits Wellen.Store Wellen.Spec

/-- `expandEntry_align` for the bytes `write_n_state` produces: where the meta bits sit on top of the first data byte, a packed
value leaves them free (`merged_head_lt`), so no bound on the first byte has to be assumed -/
theorem expandEntry_align_gen (frm to loc : States) (bits : Nat) (nums : List Nat)
    (hlen : nums.length = bits) (hv : ∀ v ∈ nums, v < 2 ^ loc.bits)
    (hle1 : loc.toNat ≤ frm.toNat) (hle2 : frm.toNat ≤ to.toNat) (hb : 1 ≤ bits) :
    expandEntry frm to bits (alignEntry frm loc bits (writeNState loc nums none)) =
      alignEntry to loc bits (writeNState loc nums none) := by
  have hhd := merged_head_lt hlen hv hle1
  obtain ⟨h, t, hw⟩ := List.exists_cons_of_ne_nil
    (writeNState_ne_nil loc (List.ne_nil_of_length_pos (hlen ▸ hb)))
  rw [hw] at hhd ⊢
  exact expandEntry_align hle1 hle2 hhd

/-- the stored entry of a value under the signal's widest kind `maxS` -/
def valueEntry (maxS : States) (bits : Nat) (syms : List Nat) : List Nat :=
  alignEntry maxS (kindOf syms) bits (writeNState (kindOf syms) syms none)

/-- the writer `w` represents the change list `chg` (newest first): its accumulator holds the time indices and, under the widest kind
seen so far, the entries of the values of `chg` -/
structure WRel (bits : Nat) (w : Writer) (chg : List (Nat × List Nat)) : Prop where
  tpe : w.tpe = .bitvec bits
  times : w.acc.timesRev = chg.map (·.1)
  entries : w.acc.entriesRev = chg.map (fun x => valueEntry w.maxStates bits x.2)
  wf : ∀ x ∈ chg, x.2.length = bits ∧ (∀ v ∈ x.2, v < 9) ∧ (kindOf x.2).toNat ≤ w.maxStates.toNat

/-- on values as `WRel.wf` describes them -/
theorem valueEntry_inj {maxS : States} {bits : Nat} {s1 s2 : List Nat} (hb : 1 ≤ bits)
    (h1 : s1.length = bits ∧ (∀ v ∈ s1, v < 9) ∧ (kindOf s1).toNat ≤ maxS.toNat)
    (h2 : s2.length = bits ∧ (∀ v ∈ s2, v < 9) ∧ (kindOf s2).toNat ≤ maxS.toNat)
    (he : valueEntry maxS bits s1 = valueEntry maxS bits s2) : s1 = s2 := by
  obtain ⟨rfl, h91, hl1⟩ := h1
  obtain ⟨e2, h92, hl2⟩ := h2
  exact (entry_injective e2.symm (List.ne_nil_of_length_pos hb)
    (kindOf_fits h91) (kindOf_fits h92) hl1 hl2 (by rw [e2]; exact he)).2

/-- the writer after `expand_entries` to the kind `sigS` … -/
def Writer.widen (w : Writer) (bits : Nat) (sigS : States) : Writer :=
  { w with maxStates := sigS, acc := if sigS ≠ w.maxStates
      then { w.acc with entriesRev := w.acc.entriesRev.map (expandEntry w.maxStates sigS bits) } else w.acc }

/-- … and after the entry of the value `syms` is appended at time index `t` -/
def Writer.pushValue (w : Writer) (bits t : Nat) (syms : List Nat) : Writer :=
  { w with acc := w.acc.push t (valueEntry w.maxStates bits syms) }

theorem addChange_bitvec {w : Writer} {t bits : Nat} {value nums : List Nat} (ht : w.tpe = .bitvec bits)
    (hn : charsToNums value = some nums) (hne : nums ≠ []) :
    addChange w t (.chars value) = some ((w.widen bits (States.join w.maxStates (kindOf nums))).pushValue bits t nums) := by
  have hcs : checkStates value = some (kindOf nums) := by rw [checkStates_eq, hn]; rfl
  have hentry := writer_entry_eq_align (States.join w.maxStates (kindOf nums)) (kindOf nums) bits nums
    (writeNState_ne_nil _ hne)
  simp only [] at hentry
  simp only [addChange, ht, hcs, hn, hentry, valueEntry, Writer.widen, Writer.pushValue]

theorem WRel.widen {bits : Nat} {w : Writer} {chg : List (Nat × List Nat)} (hr : WRel bits w chg) (hb : 1 ≤ bits)
    {sigS : States} (hs : w.maxStates.toNat ≤ sigS.toNat) : WRel bits (w.widen bits sigS) chg where
  tpe := hr.tpe
  times := by
    simp only [Writer.widen]
    split <;> exact hr.times
  entries := by
    simp only [Writer.widen]
    split
    · show w.acc.entriesRev.map _ = _
      rw [hr.entries, List.map_map]
      apply List.map_congr_left
      intro x hx
      obtain ⟨h1, h2, h3⟩ := hr.wf x hx
      exact expandEntry_align_gen _ _ _ bits x.2 h1 (kindOf_fits h2) h3 hs hb
    · rename_i hj
      rw [Decidable.not_not.mp hj]
      exact hr.entries
  wf x hx := ⟨(hr.wf x hx).1, (hr.wf x hx).2.1, Nat.le_trans (hr.wf x hx).2.2 hs⟩

theorem WRel.pushValue {bits : Nat} {w : Writer} {chg : List (Nat × List Nat)} (hr : WRel bits w chg) (hb : 1 ≤ bits) (t : Nat)
    {nums : List Nat} (hn : nums.length = bits ∧ (∀ v ∈ nums, v < 9) ∧ (kindOf nums).toNat ≤ w.maxStates.toNat) :
    WRel bits (w.pushValue bits t nums) (pushC chg t nums) := by
  -- `push` compares entries byte-wise; `valueEntry` is injective, so it drops the entry exactly when the value repeats
  obtain ⟨g1, g2⟩ := push_pushC (valueEntry w.maxStates bits) w.acc chg t nums hr.times hr.entries fun p hp e =>
    valueEntry_inj hb (hr.wf p (List.mem_of_mem_head? hp)) hn e
  exact ⟨hr.tpe, g1, g2, fun x hx => (mem_pushC hx).elim (hr.wf x) fun e => e ▸ hn⟩

def symsOf (chars : List Nat) : List Nat := (charsToNums chars).getD []

theorem WRel.foldl_addChange {bits : Nat} (hb : 1 ≤ bits) (cbs : List (Nat × List Nat)) {w : Writer} {chg : List (Nat × List Nat)}
    (hr : WRel bits w chg) (hv : ∀ cb ∈ cbs, ∃ nums, charsToNums cb.2 = some nums ∧ nums.length = bits) :
    ∃ w', (cbs.map fun c => (c.1, WValue.chars c.2)).foldl
        (fun (acc : Option Writer) (c : Nat × WValue) => acc.bind fun w => addChange w c.1 c.2) (some w) = some w' ∧
      WRel bits w' (cbs.foldl (fun c cb => pushC c cb.1 (symsOf cb.2)) chg) ∧
      w.maxStates.toNat ≤ w'.maxStates.toNat ∧
      ∀ cb ∈ cbs, (kindOf (symsOf cb.2)).toNat ≤ w'.maxStates.toNat := by
  induction cbs generalizing w chg with
  | nil => exact ⟨w, rfl, hr, Nat.le_refl _, nofun⟩
  | cons cb rest ih =>
    obtain ⟨⟨nums, hn, hl⟩, hvr⟩ := List.forall_mem_cons.mp hv
    have hjl := join_ge_left w.maxStates (kindOf nums)
    have hjr := join_ge_right w.maxStates (kindOf nums)
    have h1 := addChange_bitvec (t := cb.1) hr.tpe hn (List.ne_nil_of_length_pos (hl ▸ Nat.zero_lt_of_lt hb))
    obtain ⟨w', h2, hr2, hm2, hk2⟩ := ih ((hr.widen hb hjl).pushValue hb cb.1 ⟨hl, charsToNums_lt hn, hjr⟩) hvr
    have hs : symsOf cb.2 = nums := by simp [symsOf, hn]
    refine ⟨w', ?_, ?_, Nat.le_trans hjl hm2, ?_⟩
    · simp only [List.map_cons, List.foldl_cons, Option.bind_some, h1]
      exact h2
    · simp only [List.foldl_cons, hs]; exact hr2
    · intro c hc
      rcases List.mem_cons.mp hc with rfl | hc
      · rw [hs]; exact Nat.le_trans hjr hm2
      · exact hk2 c hc

/-- every width from 1 on: `add_change` has no one-bit case (fst.rs 151–213), and neither has the entry layout -/
theorem writer_refines_canon (bits : Nat) (hb : 1 ≤ bits) (cbs : List (Nat × List Nat))
    (hv : ∀ cb ∈ cbs, ∃ nums, charsToNums cb.2 = some nums ∧ nums.length = bits) :
    ∃ (sigS : States) (chg : List (Nat × List Nat)), runWriter (.bitvec bits) (cbs.map fun c => (c.1, WValue.chars c.2)) =
        some { maxStates := sigS, times := chg.map (·.1), entries := chg.map (fun x => valueEntry sigS bits x.2) } ∧
      (chg.map fun x => (x.1, Value.bits x.2)) = canon (cbs.map fun c => (c.1, Value.bits (symsOf c.2))) ∧
      (∀ cb ∈ cbs, (kindOf (symsOf cb.2)).toNat ≤ sigS.toNat) := by
  have h0 : WRel bits { tpe := .bitvec bits } [] := ⟨rfl, rfl, rfl, nofun⟩
  obtain ⟨w', hf, hr, _, hk⟩ := WRel.foldl_addChange hb cbs h0 hv
  refine ⟨w'.maxStates, (cbs.foldl (fun c cb => pushC c cb.1 (symsOf cb.2)) []).reverse, ?_, ?_, hk⟩
  · unfold runWriter
    rw [hf]
    simp only [hr.times, hr.entries, List.map_reverse]
  · have := foldl_pushC_canon Value.bits (fun a b e => by cases e; rfl) (cbs.map fun c => (c.1, symsOf c.2))
    rw [List.foldl_map, List.map_map] at this
    exact this

/-- string and real signals at once: `wrap` makes the callback's value, `mk` the specification's, and `hstep` says that
`add_change` stores the bytes as they come -/
theorem writer_plain_refines_canon (tpe : SigType) (wrap : List Nat → WValue) (mk : List Nat → Value)
    (hinj : ∀ a b, mk a = mk b → a = b)
    (hstep : ∀ (w : Writer) (t : Nat) (v : List Nat), w.tpe = tpe →
      addChange w t (wrap v) = some { w with acc := w.acc.push t v })
    (cbs : List (Nat × List Nat)) :
    ∃ (chg : List (Nat × List Nat)), runWriter tpe (cbs.map fun c => (c.1, wrap c.2)) =
        some { maxStates := .two, times := chg.map (·.1), entries := chg.map (·.2) } ∧
      (chg.map fun x => (x.1, mk x.2)) = canon (cbs.map fun c => (c.1, mk c.2)) := by
  have hfold : ∀ (cbs : List (Nat × List Nat)) (w : Writer), w.tpe = tpe →
      (cbs.map fun c => (c.1, wrap c.2)).foldl
        (fun (acc : Option Writer) (c : Nat × WValue) => acc.bind fun w => addChange w c.1 c.2) (some w) =
      some { w with acc := cbs.foldl (fun a x => a.push x.1 x.2) w.acc } := by
    intro cbs
    induction cbs with
    | nil => intro w _; rfl
    | cons cb rest ih =>
      intro w ht
      simp only [List.map_cons, List.foldl_cons, Option.bind_some, hstep w cb.1 cb.2 ht]
      exact ih _ ht
  obtain ⟨ht, he⟩ := foldl_push_pushC id (fun _ => True) (fun _ _ _ _ e => e) cbs {} []
    (fun _ _ => trivial) (fun _ _ => trivial) rfl rfl
  refine ⟨_, ?_, foldl_pushC_canon mk hinj cbs⟩
  unfold runWriter
  rw [hfold cbs { tpe := tpe } rfl]
  simp only [id] at ht he
  simp only [ht, he, List.map_reverse]

theorem writer_strings_refine_canon (cbs : List (Nat × List Nat)) :
    ∃ (chg : List (Nat × List Nat)), runWriter .string (cbs.map fun c => (c.1, WValue.chars c.2)) =
        some { maxStates := .two, times := chg.map (·.1), entries := chg.map (·.2) } ∧
      (chg.map fun x => (x.1, Value.str x.2)) = canon (cbs.map fun c => (c.1, Value.str c.2)) :=
  writer_plain_refines_canon .string WValue.chars Value.str (fun a b e => by cases e; rfl)
    (fun w t v ht => by simp [addChange, ht]) cbs

theorem writer_reals_refine_canon (cbs : List (Nat × List Nat)) :
    ∃ (chg : List (Nat × List Nat)), runWriter .real (cbs.map fun c => (c.1, WValue.real c.2)) =
        some { maxStates := .two, times := chg.map (·.1), entries := chg.map (·.2) } ∧
      (chg.map fun x => (x.1, Value.real x.2)) = canon (cbs.map fun c => (c.1, Value.real c.2)) :=
  writer_plain_refines_canon .real WValue.real Value.real (fun a b e => by cases e; rfl)
    (fun w t v _ => by simp [addChange]) cbs

end Wellen.Fst
