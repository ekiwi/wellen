import WellenModel.Proofs.Hier
import WellenModel.Proofs.HierBuilder
/-!
# The pointer-level `Builder` refines the abstract hierarchy specification

`Rel b s ids`: the builder state `b` (node arrays with child / next / parent links, scope stack with sentinel and
flattened entries, cached last children) represents the specification state `s` (nodes in declaration order with a
parent pointer) under the numbering `ids` (specification node `i` is builder item `ids[i]`). `rel_step` shows that every
operation preserves the relation, `rel_run` lifts it to every balanced operation sequence.
-/
namespace Wellen.Hier

/-- following `nx` from `s` visits exactly the items of `l`, in this order, and then ends -/
inductive Chain (nx : ItemId → Option ItemId) : Option ItemId → List ItemId → Prop
  | nil : Chain nx none []
  | cons {x : ItemId} {l : List ItemId} : Chain nx (nx x) l → Chain nx (some x) (x :: l)

theorem Chain.congr {nx nx' : ItemId → Option ItemId} {s : Option ItemId} {l : List ItemId}
    (h : Chain nx s l) (hag : ∀ x ∈ l, nx' x = nx x) : Chain nx' s l := by
  induction h with
  | nil => exact .nil
  | cons _ ih =>
    refine .cons ?_
    rw [hag _ (by simp)]
    exact ih (fun x hx => hag x (by simp [hx]))

theorem Chain.start {nx : ItemId → Option ItemId} {s : Option ItemId} {l : List ItemId} (h : Chain nx s l) :
    s = l.head? := by
  cases h <;> rfl

theorem Chain.snoc {nx nx' : ItemId → Option ItemId} {s : Option ItemId} {l : List ItemId} {y : ItemId}
    (h : Chain nx s l) (hnd : l.Nodup)
    (hnx : ∀ x ∈ l, nx' x = if some x = l.getLast? then some y else nx x) (hy : nx' y = none) :
    Chain nx' (s.or (some y)) (l ++ [y]) := by
  induction h with
  | nil => exact .cons (hy ▸ .nil)
  | @cons x l hl ih =>
    obtain ⟨hx, hnd⟩ := List.nodup_cons.mp hnd
    refine .cons ?_
    have hx' := hnx x (by simp)
    have hs := hl.start
    cases l with
    | nil => simpa [hx', hs] using ih hnd (by simp)
    | cons a r =>
      have hne : some x ≠ (a :: r).getLast? := fun e => hx (List.mem_of_getLast? e.symm)
      rw [List.getLast?_cons_cons, if_neg hne] at hx'
      have := ih hnd (fun z hz => by simpa [List.getLast?_cons_cons] using hnx z (List.mem_cons_of_mem _ hz))
      rw [hs] at this
      rw [hx', hs]
      exact this

theorem iterItems_chain {b : Builder} {s : Option ItemId} {l : List ItemId} (h : Chain (getNext b) s l) {fuel : Nat}
    (hf : l.length < fuel) : iterItems b fuel s = l := by
  induction h generalizing fuel with
  | nil => cases fuel <;> rfl
  | @cons x l _ ih =>
    cases fuel with
    | zero => cases hf
    | succ f => rw [iterItems, ih (Nat.lt_of_succ_lt_succ hf)]

@[simp] theorem mem_childrenOf {nodes : List FNode} {p : Option Nat} {i : Nat} :
    i ∈ childrenOf nodes p ↔ i < nodes.length ∧ (nodes.getD i default).parent = p := by
  simp [childrenOf]

theorem childrenOf_lt (nodes : List FNode) (p : Option Nat) (i : Nat) (h : i ∈ childrenOf nodes p) :
    i < nodes.length ∧ (nodes.getD i default).parent = p := mem_childrenOf.mp h

theorem childrenOf_snoc (nodes : List FNode) (x : FNode) (p : Option Nat) :
    childrenOf (nodes ++ [x]) p = childrenOf nodes p ++ (if x.parent = p then [nodes.length] else []) := by
  simp only [childrenOf, List.length_append, List.length_singleton, List.range_succ, List.filter_append]
  congr 1
  · refine List.filter_congr fun i hi => ?_
    rw [List.getD_eq_getElem?_getD, List.getD_eq_getElem?_getD, List.getElem?_append_left (List.mem_range.mp hi)]
  · simp only [List.filter_cons, List.filter_nil, List.getD_eq_getElem?_getD, List.getElem?_concat_length, Option.getD_some,
      beq_iff_eq]

theorem findIdx?_children (nodes : List FNode) (cur : Option Nat) (q : FNode → Bool) :
    findIdx? (fun n => n.parent == cur && q n) nodes 0 =
      (childrenOf nodes cur).find? (fun i => q (nodes.getD i default)) := by
  simp only [childrenOf, List.find?_filter, findIdx?_eq_find?_range, Bool.decide_and, Bool.decide_eq_true]

/-- the first node ever declared is a top-level node, so a non-empty hierarchy has a first top-level item -/
theorem top_nonempty {s : SpecSt} (hi : Inv s) (h : 0 < s.nodes.length) : 0 ∈ childrenOf s.nodes none := by
  refine mem_childrenOf.mpr ⟨h, ?_⟩
  cases hp : (s.nodes.getD 0 default).parent with
  | none => rfl
  | some p => exact absurd (hi.parent_lt h hp) (by omega)

def idAt (ids : List ItemId) (i : Nat) : ItemId := ids.getD i default

theorem idAt_eq (ids : List ItemId) (i : Nat) (h : i < ids.length) : ids[i]? = some (idAt ids i) := getElem?_getD h

theorem idAt_of_getElem? {ids : List ItemId} {i : Nat} {x : ItemId} (h : ids[i]? = some x) : idAt ids i = x := by
  simp [idAt, List.getD_eq_getElem?_getD, h]

def kids (nodes : List FNode) (ids : List ItemId) (p : Option Nat) : List ItemId :=
  (childrenOf nodes p).map (idAt ids)

theorem kids_snoc {nodes : List FNode} {ids : List ItemId} {x : FNode} {y : ItemId} {p : Option Nat}
    (hl : ids.length = nodes.length) :
    kids (nodes ++ [x]) (ids ++ [y]) p = kids nodes ids p ++ (if x.parent = p then [y] else []) := by
  simp only [kids, childrenOf_snoc, List.map_append]
  congr 1
  · refine List.map_congr_left fun i hi => ?_
    have : i < ids.length := hl ▸ (mem_childrenOf.mp hi).1
    simp [idAt, List.getD_eq_getElem?_getD, List.getElem?_append_left this]
  · split <;> simp [idAt, ← hl]

theorem kids_sublist {nodes : List FNode} {ids : List ItemId} (hl : ids.length = nodes.length) (p : Option Nat) :
    (kids nodes ids p).Sublist ids := by
  have : (List.range ids.length).map (idAt ids) = ids := by
    refine List.ext_getElem? fun i => ?_
    by_cases h : i < ids.length <;> simp [h, idAt, List.getD_eq_getElem?_getD]
  have h1 := (List.filter_sublist (l := List.range nodes.length) (p := fun i => (nodes.getD i default).parent == p)).map (idAt ids)
  rw [hl] at this
  rwa [this] at h1

theorem idx_inj {ids : List ItemId} (hnd : ids.Nodup) {i j : Nat} {y : ItemId} (hi : ids[i]? = some y)
    (hj : ids[j]? = some y) : i = j :=
  (List.getElem?_inj (lt_of_getElem? hi) hnd).mp (hi.trans hj.symm)

theorem kids_mem {nodes : List FNode} {ids : List ItemId} {p : Option Nat} {y : ItemId} (hl : ids.length = nodes.length)
    (h : y ∈ kids nodes ids p) :
    ∃ i, (nodes.getD i default).parent = p ∧ ids[i]? = some y := by
  obtain ⟨i, hi, rfl⟩ := List.mem_map.mp h
  obtain ⟨h1, h2⟩ := mem_childrenOf.mp hi
  exact ⟨i, h2, idAt_eq ids i (hl ▸ h1)⟩

/-- the specification names a parent by its node index (`sp`), the builder by its scope number (`bp`) -/
def ParentRel (ids : List ItemId) (sp : Option Nat) (bp : Option Nat) : Prop :=
  match sp with
  | none => bp = none
  | some p => ∃ k, ids[p]? = some (.scope k) ∧ bp = some k

def NodeRel (b : Builder) (ids : List ItemId) (n : FNode) : ItemId → Prop
  | .scope k => n.isScope = true ∧ k < b.scopes.size ∧ (b.scopes.getD k default).name = n.name ∧
      ParentRel ids n.parent (b.scopes.getD k default).parent
  | .var k => n.isScope = false ∧ k < b.vars.size ∧ (b.vars.getD k default).name = n.name ∧
      (b.vars.getD k default).sig = n.sig ∧ ParentRel ids n.parent (b.vars.getD k default).parent

/-- where the child list of `p` starts in the builder -/
def firstOf (b : Builder) (ids : List ItemId) : Option Nat → Option ItemId
  | none => b.firstItem
  | some j => match ids[j]? with
    | some (.scope k) => (b.scopes.getD k default).child
    | _ => none

def lastOf (nodes : List FNode) (ids : List ItemId) (p : Option Nat) : Option ItemId := (kids nodes ids p).getLast?

/-- the builder's scope stack (top first, sentinel at the bottom) represents the specification's stack; every entry
that is not flattened caches the last child of its scope -/
def StackRel (nodes : List FNode) (ids : List ItemId) : List SEntry → List StackEntry → Prop
  | [], bs => ∃ e, bs = [e] ∧ e.scopeId = none ∧ e.flattened = false ∧ e.lastChild = lastOf nodes ids none
  | .flat :: sr, bs => ∃ e br, bs = e :: br ∧ e.scopeId = none ∧ e.flattened = true ∧ StackRel nodes ids sr br
  | .scope j :: sr, bs => ∃ e br k, bs = e :: br ∧ ids[j]? = some (.scope k) ∧ e.scopeId = some k ∧
      e.flattened = false ∧ e.lastChild = lastOf nodes ids (some j) ∧ StackRel nodes ids sr br

/-- open scopes are nested: every open scope was declared after all scopes below it on the stack -/
def Desc : List SEntry → Prop
  | [] => True
  | .flat :: r => Desc r
  | .scope j :: r => (∀ j', SEntry.scope j' ∈ r → j' < j) ∧ Desc r

structure Rel (b : Builder) (s : SpecSt) (ids : List ItemId) : Prop where
  len : ids.length = s.nodes.length
  cnt : s.nodes.length = b.vars.size + b.scopes.size
  nodup : ids.Nodup
  node : ∀ (i : Nat) (n : FNode) (x : ItemId), s.nodes[i]? = some n → ids[i]? = some x → NodeRel b ids n x
  chain : ∀ p, Chain (getNext b) (firstOf b ids p) (kids s.nodes ids p)
  stack : StackRel s.nodes ids s.stack b.stack
  desc : Desc s.stack
  inv : Inv s
  /-- scopes are numbered in creation order: a parent scope has a smaller number (so every walk towards the root ends) -/
  porder : ∀ k k', k < b.scopes.size → (b.scopes.getD k default).parent = some k' → k' < k

section
variable {b : Builder} {s : SpecSt} {ids : List ItemId} (hr : Rel b s ids)
include hr

theorem Rel.nodeAt {i : Nat} (h : i < s.nodes.length) : NodeRel b ids (s.nodes.getD i default) (idAt ids i) :=
  hr.node i _ _ (getElem?_getD h) (idAt_eq ids i (hr.len ▸ h))

theorem Rel.node_of_id {j : Nat} {x : ItemId} (h : ids[j]? = some x) :
    j < s.nodes.length ∧ NodeRel b ids (s.nodes.getD j default) x := by
  have hlt : j < s.nodes.length := hr.len ▸ lt_of_getElem? h
  exact ⟨hlt, idAt_of_getElem? h ▸ hr.nodeAt hlt⟩

theorem Rel.valid {y : ItemId} (hy : y ∈ ids) : ValidItem b y := by
  obtain ⟨i, hget⟩ := List.mem_iff_getElem?.mp hy
  have := (hr.node_of_id hget).2
  cases y <;> exact this.2.1

theorem Rel.parent_valid {sp bp : Option Nat} (h : ParentRel ids sp bp) (k : Nat) (hk : bp = some k) : k < b.scopes.size := by
  cases sp with
  | none => cases hk.symm.trans h
  | some j =>
    obtain ⟨k', h1, h2⟩ := h
    cases hk.symm.trans h2
    exact hr.valid (List.mem_of_getElem? h1)

theorem Rel.kids_disjoint {p q : Option Nat} {y : ItemId} (hp : y ∈ kids s.nodes ids p) (hq : y ∈ kids s.nodes ids q) : p = q := by
  obtain ⟨i, hpi, hi⟩ := kids_mem hr.len hp
  obtain ⟨j, hqj, hj⟩ := kids_mem hr.len hq
  cases idx_inj hr.nodup hi hj
  exact hpi.symm.trans hqj

theorem Rel.kids_length_lt (p : Option Nat) : (kids s.nodes ids p).length < nodeCount b + 1 := by
  have := (kids_sublist hr.len p).length_le
  have := hr.cnt; have := hr.len
  simp only [nodeCount]; omega

end

theorem items_eq_kids (b : Builder) (s : SpecSt) (ids : List ItemId) (hr : Rel b s ids) (p : Option Nat) :
    itemsOf b (firstOf b ids p) = kids s.nodes ids p :=
  iterItems_chain (hr.chain p) (hr.kids_length_lt p)

theorem parentRel_snoc {ids : List ItemId} {sp bp : Option Nat} (h : ParentRel ids sp bp) (z : ItemId) :
    ParentRel (ids ++ [z]) sp bp := by
  cases sp with
  | none => exact h
  | some p =>
    obtain ⟨k, h1, h2⟩ := h
    exact ⟨k, getElem?_snoc_left h1, h2⟩

theorem parentRel_inj {ids : List ItemId} (hnd : ids.Nodup) {cur par : Option Nat} (hpar : ParentRel ids cur par)
    {j k : Nat} (hjk : ids[j]? = some (.scope k)) (h : some k = par) : some j = cur := by
  cases cur with
  | none => cases h.trans hpar
  | some j0 =>
    obtain ⟨k0, h1, rfl⟩ := hpar
    cases h
    rw [idx_inj hnd hjk h1]

theorem nodeRel_mono {b b' : Builder} (hk : Keeps b b') {ids : List ItemId} {z : ItemId} {n : FNode} {y : ItemId}
    (h : NodeRel b ids n y) : NodeRel b' (ids ++ [z]) n y := by
  cases y with
  | scope k =>
    obtain ⟨h1, h2, h3, h4⟩ := h
    obtain ⟨g1, g2, g3⟩ := hk.scopes k h2
    exact ⟨h1, g1, g2 ▸ h3, g3 ▸ parentRel_snoc h4 _⟩
  | var k =>
    obtain ⟨h1, h2, h3, h4, h5⟩ := h
    obtain ⟨g1, g2, g3, g4⟩ := hk.vars k h2
    exact ⟨h1, g1, g2 ▸ h3, g3 ▸ h4, g4 ▸ parentRel_snoc h5 _⟩

theorem firstOf_scope (b : Builder) (ids : List ItemId) (j k : Nat) (h : ids[j]? = some (.scope k)) :
    firstOf b ids (some j) = (b.scopes.getD k default).child := by
  simp [firstOf, h]

theorem firstOf_eq_childOf (b : Builder) {ids : List ItemId} {cur par : Option Nat} (hpar : ParentRel ids cur par) :
    firstOf b ids cur = childOf b par := by
  cases cur with
  | none => cases hpar; rfl
  | some j => obtain ⟨k, h1, rfl⟩ := hpar; simp [firstOf, h1, childOf]

/-- a node that is not in the arrays yet has no children there -/
theorem firstOf_snoc_fresh (b : Builder) (ids : List ItemId) {node : ItemId} (hfresh : ¬ ValidItem b node) (p : Option Nat) :
    firstOf b (ids ++ [node]) p = firstOf b ids p := by
  cases p with
  | none => rfl
  | some j =>
    simp only [firstOf]
    rcases Nat.lt_trichotomy j ids.length with hj | rfl | hj
    · rw [List.getElem?_append_left hj]
    · rw [List.getElem?_concat_length, List.getElem?_eq_none (Nat.le_refl _)]
      cases node with
      | var _ => rfl
      | scope k => exact congrArg ScopeN.child (dif_neg hfresh)
    · rw [List.getElem?_eq_none (by simp; omega), List.getElem?_eq_none (by omega)]

theorem firstOf_add {b b' : Builder} {ids : List ItemId} {cur par : Option Nat} {node : ItemId}
    (hnd : (ids ++ [node]).Nodup) (hpar : ParentRel ids cur par) (hfresh : ¬ ValidItem b node)
    (hc : ∀ q, childOf b' q = if q = par then (childOf b q).or (some node) else childOf b q) (p : Option Nat) :
    firstOf b' (ids ++ [node]) p = if p = cur then (firstOf b ids p).or (some node) else firstOf b ids p := by
  have hpar' := parentRel_snoc hpar node
  split
  · next h => rw [h, firstOf_eq_childOf b' hpar', firstOf_eq_childOf b hpar, hc, if_pos rfl]
  · next h =>
    rw [← firstOf_snoc_fresh b ids hfresh]
    -- off the current scope nothing is linked: a scope whose first child changed would be `par`, hence `cur`
    cases p with
    | none =>
      refine (hc none).trans (if_neg fun hp => h ?_)
      cases cur with
      | none => rfl
      | some j => obtain ⟨k, _, rfl⟩ := hpar; cases hp
    | some j =>
      simp only [firstOf]
      cases hi : (ids ++ [node])[j]? with
      | none => rfl
      | some y =>
        cases y with
        | var _ => rfl
        | scope k => exact (hc (some k)).trans (if_neg fun hp => h (parentRel_inj hnd hpar' hi hp))

theorem lastOf_snoc {nodes : List FNode} {ids : List ItemId} {x : FNode} {y : ItemId} {p : Option Nat}
    (hl : ids.length = nodes.length) :
    lastOf (nodes ++ [x]) (ids ++ [y]) p = if x.parent = p then some y else lastOf nodes ids p := by
  simp only [lastOf, kids_snoc hl]
  by_cases h : x.parent = p <;> simp [h]

theorem StackRel.snoc_above {nodes : List FNode} {ids : List ItemId} {x : FNode} {y : ItemId} {j : Nat}
    (hl : ids.length = nodes.length) (hx : x.parent = some j) {sr : List SEntry} {br : List StackEntry}
    (h : StackRel nodes ids sr br) (hlt : ∀ j', SEntry.scope j' ∈ sr → j' < j) :
    StackRel (nodes ++ [x]) (ids ++ [y]) sr br := by
  induction sr generalizing br with
  | nil =>
    obtain ⟨e, h1, h2, h3, h4⟩ := h
    exact ⟨e, h1, h2, h3, by simp [h4, lastOf_snoc hl, hx]⟩
  | cons en sr ih =>
    have hlt' : ∀ j', SEntry.scope j' ∈ sr → j' < j := fun j' hj' => hlt j' (List.mem_cons_of_mem _ hj')
    cases en with
    | flat =>
      obtain ⟨e, br', h1, h2, h3, h4⟩ := h
      exact ⟨e, br', h1, h2, h3, ih h4 hlt'⟩
    | scope j' =>
      obtain ⟨e, br', k, h1, h2, h3, h4, h5, h6⟩ := h
      have hj' : j' < j := hlt j' (by simp)
      refine ⟨e, br', k, h1, getElem?_snoc_left h2, h3, h4, ?_, ih h6 hlt'⟩
      rw [h5, lastOf_snoc hl, hx, if_neg (by simp; omega)]

/-- `find_parent_scope` finds the entry of the current scope, which caches that scope's last child; with the cache set to
a node added to the current scope the stack represents the specification's again -/
theorem findParent_rel {nodes : List FNode} {ids : List ItemId} (hl : ids.length = nodes.length)
    {ss : List SEntry} {bs : List StackEntry} (h : StackRel nodes ids ss bs) (hd : Desc ss) :
    ∃ pos e, findParent bs = some (pos, e) ∧
      e.lastChild = lastOf nodes ids (curParent ss) ∧ ParentRel ids (curParent ss) e.scopeId ∧
      ∀ (x : FNode) (y : ItemId), x.parent = curParent ss →
        StackRel (nodes ++ [x]) (ids ++ [y]) ss (bs.modify pos (fun e => { e with lastChild := some y })) := by
  induction ss generalizing bs with
  | nil =>
    obtain ⟨e, rfl, h2, h3, h4⟩ := h
    exact ⟨0, e, by simp [findParent, h3], h4, h2, fun x y hx =>
      ⟨{ e with lastChild := some y }, by simp, h2, h3, by simp [lastOf_snoc hl, hx, curParent]⟩⟩
  | cons en sr ih =>
    cases en with
    | flat =>
      obtain ⟨e, br, rfl, h2, h3, h4⟩ := h
      obtain ⟨pos, e', f1, f2, f3, f4⟩ := ih h4 hd
      exact ⟨pos + 1, e', by simp [findParent, h3, f1], f2, f3, fun x y hx => ⟨e, _, by simp, h2, h3, f4 x y hx⟩⟩
    | scope j =>
      obtain ⟨e, br, k, rfl, h2, h3, h4, h5, h6⟩ := h
      exact ⟨0, e, by simp [findParent, h4], h5, ⟨k, h2, h3⟩, fun x y hx =>
        ⟨{ e with lastChild := some y }, br, k, by simp, getElem?_snoc_left h2, h3, h4, by simp [lastOf_snoc hl, hx, curParent],
          StackRel.snoc_above hl hx h6 hd.1⟩⟩

theorem Desc.le_curParent {st : List SEntry} (hd : Desc st) {j' : Nat} (hj' : SEntry.scope j' ∈ st) :
    ∃ j1, curParent st = some j1 ∧ j' ≤ j1 := by
  induction st with
  | nil => simp at hj'
  | cons en r ih =>
    cases en with
    | flat => exact ih hd (by simpa using hj')
    | scope j =>
      refine ⟨j, rfl, ?_⟩
      rcases List.mem_cons.mp hj' with h | h
      · cases h; exact Nat.le_refl _
      · exact Nat.le_of_lt (hd.1 j' h)

theorem rel_add {b b' : Builder} {s : SpecSt} {ids : List ItemId} (hr : Rel b s ids) {x : FNode} {node : ItemId}
    {st' : List SEntry} {par : Option Nat}
    (hx : x.parent = curParent s.stack) (hpar : ParentRel ids (curParent s.stack) par)
    (hfresh : ¬ ValidItem b node)
    (ho : AddObs b b' par (lastOf s.nodes ids (curParent s.stack)) node)
    (hcnt : b'.vars.size + b'.scopes.size = b.vars.size + b.scopes.size + 1)
    (hnew : NodeRel b' (ids ++ [node]) x node)
    (hinv : Inv { nodes := s.nodes ++ [x], stack := st' })
    (hst : StackRel (s.nodes ++ [x]) (ids ++ [node]) st' b'.stack) (hd : Desc st')
    (hpo : ∀ k, b.scopes.size ≤ k → k < b'.scopes.size → (b'.scopes.getD k default).parent = par) :
    Rel b' { nodes := s.nodes ++ [x], stack := st' } (ids ++ [node]) := by
  have hl := hr.len
  have hni : node ∉ ids := fun h => hfresh (hr.valid h)
  have hnd : (ids ++ [node]).Nodup :=
    List.nodup_append.mpr ⟨hr.nodup, by simp, fun a ha c hc => by simp at hc; subst hc; exact fun e => hni (e ▸ ha)⟩
  refine ⟨by simp [hl], ?_, hnd, ?_, ?_, hst, hd, hinv, fun k k' hk hp => ?_⟩
  · rw [List.length_append, hr.cnt, hcnt]; rfl
  · intro i n y hn hy
    rcases getElem?_snoc hn with ⟨hi, hn⟩ | ⟨rfl, rfl⟩
    · rw [List.getElem?_append_left (hl ▸ hi)] at hy
      exact nodeRel_mono ho.keeps (hr.node i n y hn hy)
    · rw [← hl, List.getElem?_concat_length] at hy; cases hy; exact hnew
  · intro p
    have hnode : getNext b' node = none := by
      rw [ho.next, if_neg fun h => hni ((kids_sublist hl _).subset (List.mem_of_getLast? h.symm)), getNext_invalid hfresh]
    simp only [kids_snoc hl, firstOf_add hnd hpar hfresh ho.child p, hx]
    -- `ho.next`: of the old items only the last child of the current scope is re-linked
    by_cases hp : p = curParent s.stack
    · subst hp
      simpa using (hr.chain _).snoc ((kids_sublist hl _).nodup hr.nodup) (fun y _ => ho.next y) hnode
    · simp only [hp, Ne.symm hp, if_false, List.append_nil]
      refine (hr.chain p).congr fun y hy => ?_
      rw [ho.next, if_neg fun h => hp (hr.kids_disjoint hy (List.mem_of_getLast? h.symm))]
  · -- an old scope keeps its parent; a new one hangs under `par`, which is an old scope
    by_cases hk1 : k < b.scopes.size
    · exact hr.porder k k' hk1 ((ho.keeps.scopes k hk1).2.2 ▸ hp)
    · rw [hpo k (Nat.le_of_not_lt hk1) hk] at hp
      have := hr.parent_valid hpar k' hp
      omega

/-- `add_to_hierarchy_tree` in a state that represents `s`: `node` is linked in behind the last child of the current scope -/
theorem addToTree_rel {b : Builder} {s : SpecSt} {ids : List ItemId} (hr : Rel b s ids) (node : ItemId) :
    ∃ (par : Option Nat) (b1 : Builder),
      addToTree (if b.firstItem.isNone then { b with firstItem := some node } else b) node = some (b1, par) ∧
      ParentRel ids (curParent s.stack) par ∧
      (∀ x : FNode, x.parent = curParent s.stack → StackRel (s.nodes ++ [x]) (ids ++ [node]) s.stack b1.stack) ∧
      b1.vars.size = b.vars.size ∧ b1.scopes.size = b.scopes.size ∧
      AddObs b b1 par (lastOf s.nodes ids (curParent s.stack)) node := by
  obtain ⟨pos, e, hfp, hlast, hpar, hstk⟩ := findParent_rel hr.len hr.stack hr.desc
  have hl := hr.len
  have hlv : ∀ h, e.lastChild = some h → ValidItem b h := fun h hh =>
    hr.valid ((kids_sublist hl _).subset (List.mem_of_getLast? (hlast ▸ hh)))
  have hchild : e.lastChild = none ↔ childOf b e.scopeId = none := by
    rw [hlast, ← firstOf_eq_childOf b hpar, (hr.chain (curParent s.stack)).start, lastOf]
    cases kids s.nodes ids (curParent s.stack) <;> simp
  have hne : e.scopeId ≠ none → b.firstItem ≠ none := by
    -- a scope is open, so there is a node, and the first node is a top-level one
    intro h1 h2
    cases hc : curParent s.stack with
    | none => rw [hc] at hpar; exact h1 hpar
    | some j =>
      have h0 : 0 < s.nodes.length := Nat.zero_lt_of_lt (hr.inv.open_lt (curParent_mem hc))
      have := (hr.chain none).start
      rw [firstOf, h2, eq_comm, List.head?_eq_none_iff, kids, List.map_eq_nil_iff] at this
      exact absurd (top_nonempty hr.inv h0) (by rw [this]; simp)
  obtain ⟨b1, h1, h2, h3, h4, h5⟩ := addToTree_obs node hfp hlv (hr.parent_valid hpar) hchild hne
  exact ⟨e.scopeId, b1, h1, hpar, fun x hx => h2 ▸ hstk x node hx, h3, h4, hlast ▸ h5⟩

theorem step_var_rel {b : Builder} {s : SpecSt} {ids : List ItemId} (hr : Rel b s ids) (name : String) (sig : Nat) :
    ∃ b', step b (.var name sig) = some b' ∧
      Rel b' { s with nodes := s.nodes ++ [{ isScope := false, name := name, sig := sig, parent := curParent s.stack }] }
        (ids ++ [.var b.vars.size]) := by
  obtain ⟨par, b1, hadd, hpar, hstk, hvs, hss, ho⟩ := addToTree_rel hr (.var b.vars.size)
  refine ⟨_, by simp only [step, hadd]; rfl, ?_⟩
  refine rel_add hr rfl hpar (Nat.lt_irrefl _) (ho.push_var { name := name, sig := sig, parent := par } rfl _)
    (by simp; omega) ?_ (inv_step (op := .var name sig) hr.inv rfl) (hstk _ rfl) hr.desc
    fun k h1 h2 => absurd h2 (by simp only [hss]; omega)
  simpa [NodeRel, ← hvs] using parentRel_snoc hpar _

theorem step_scope_new_rel {b : Builder} {s : SpecSt} {ids : List ItemId} {name : String} (hr : Rel b s ids)
    (hinv : Inv { nodes := s.nodes ++ [{ isScope := true, name := name, parent := curParent s.stack }],
                  stack := .scope s.nodes.length :: s.stack }) :
    ∃ b1 par, addToTree (if b.firstItem.isNone then { b with firstItem := some (.scope b.scopes.size) } else b)
        (.scope b.scopes.size) = some (b1, par) ∧
      Rel { b1 with stack := { scopeId := some b.scopes.size } :: b1.stack,
                    scopes := b1.scopes.push { name := name, parent := par } }
        { nodes := s.nodes ++ [{ isScope := true, name := name, parent := curParent s.stack }],
          stack := .scope s.nodes.length :: s.stack }
        (ids ++ [.scope b.scopes.size]) := by
  obtain ⟨par, b1, hadd, hpar, hstk, hvs, hss, ho⟩ := addToTree_rel hr (.scope b.scopes.size)
  refine ⟨b1, par, hadd, ?_⟩
  have hopen : ∀ j, SEntry.scope j ∈ s.stack → j < s.nodes.length := fun _ => hr.inv.open_lt
  refine rel_add hr rfl hpar (Nat.lt_irrefl _) (ho.push_scope { name := name, parent := par } rfl rfl _)
    (by simp; omega) ?_ hinv ?_ ⟨hopen, hr.desc⟩ ?_
  · simpa [NodeRel, ← hss] using parentRel_snoc hpar _
  · -- the new entry on top of the updated old stack; the new scope has no child yet and is not the current scope
    refine ⟨_, _, b.scopes.size, rfl, by simp [← hr.len], rfl, rfl, ?_, hstk _ rfl⟩
    show none = lastOf _ _ _
    have hk : childrenOf s.nodes (some s.nodes.length) = [] := List.eq_nil_iff_forall_not_mem.mpr fun i hi => by
      obtain ⟨h1, h2⟩ := mem_childrenOf.mp hi
      exact absurd (hr.inv.parent_lt h1 h2) (by omega)
    have hc : curParent s.stack ≠ some s.nodes.length := fun hc =>
      absurd (hopen _ (curParent_mem hc)) (by omega)
    rw [lastOf_snoc hr.len]
    simp [hc, lastOf, kids, hk]
  · intro k h1 h2
    have : k = b1.scopes.size := by simp only [Array.size_push] at h2; omega
    simp [this]

def scopeIdx : ItemId → Option Nat
  | .scope k => some k
  | .var _ => none

def varIdx : ItemId → Option Nat
  | .var k => some k
  | .scope _ => none

theorem scopesIn_eq (l : List ItemId) : scopesIn l = l.filterMap scopeIdx := by
  unfold scopesIn; congr; funext x; cases x <;> rfl

theorem varsIn_eq (l : List ItemId) : varsIn l = l.filterMap varIdx := by
  unfold varsIn; congr; funext x; cases x <;> rfl

section
variable {b : Builder} {s : SpecSt} {ids : List ItemId} (hr : Rel b s ids)
include hr

theorem found_scope (p : Option Nat) (name : String) (j : Nat)
    (h : findIdx? (fun n => n.isScope && n.parent == p && n.name == name) s.nodes 0 = some j) :
    ∃ k, ids[j]? = some (.scope k) := by
  obtain ⟨hlt, hq, _⟩ := findIdx?_spec h
  simp only [Bool.and_eq_true] at hq
  have hnr := hr.nodeAt hlt
  have hid := idAt_eq ids j (hr.len ▸ hlt)
  cases hx : idAt ids j with
  | scope k => exact ⟨k, hx ▸ hid⟩
  | var k => rw [hx] at hnr; exact absurd (hq.1.1.symm.trans hnr.1) (by decide)

/-- one level of a lookup, for either kind of item: `f` selects the items of the kind and gives their number, `nm` reads
the builder's name for a number, `kind` is the kind's test on a specification node. The first item of the kind among
the items of `p` whose name satisfies `t` is the item of the first such node of the specification. -/
theorem lookup_level (f : ItemId → Option Nat) (nm : Nat → String) (kind : FNode → Bool)
    (hk : ∀ i, i < s.nodes.length → ∀ t : String → Bool,
      (f (idAt ids i)).any (fun k => t (nm k)) = (kind (s.nodes.getD i default) && t (s.nodes.getD i default).name))
    (p : Option Nat) (t : String → Bool) :
    ((itemsOf b (firstOf b ids p)).filterMap f).find? (fun k => t (nm k)) =
      (findIdx? (fun n => kind n && n.parent == p && t n.name) s.nodes 0).bind (fun j => f (idAt ids j)) := by
  have hq : (fun n : FNode => kind n && n.parent == p && t n.name) = fun n => n.parent == p && (kind n && t n.name) := by
    funext n; ac_rfl
  rw [items_eq_kids b s ids hr, hq, findIdx?_children, List.find?_filterMap, kids, List.find?_map, Option.bind_map]
  congr 1
  exact find?_congr fun i hi => hk i (mem_childrenOf.mp hi).1 t

/-- one level of `lookup_scope`, and the search of `find_duplicate_scope` -/
theorem lookup_scope_level (p : Option Nat) (name : String) :
    (scopesIn (itemsOf b (firstOf b ids p))).find? (fun k => (b.scopes.getD k default).name = name) =
      (findIdx? (fun n => n.isScope && n.parent == p && n.name == name) s.nodes 0).bind (fun j => scopeIdx (idAt ids j)) := by
  rw [scopesIn_eq]
  refine lookup_level hr scopeIdx (fun k => (b.scopes.getD k default).name) FNode.isScope (fun i hi t => ?_) p
    (fun nm => decide (nm = name))
  have := hr.nodeAt hi
  cases h : idAt ids i with
  | scope k => rw [h] at this; simp only [scopeIdx, Option.any_some, this.1, this.2.2.1, Bool.true_and]
  | var k => rw [h] at this; simp only [scopeIdx, Option.any_none, this.1, Bool.false_and]

theorem lookup_var_level (p : Option Nat) (t : String → Bool) :
    (varsIn (itemsOf b (firstOf b ids p))).find? (fun k => t (b.vars.getD k default).name) =
      (findIdx? (fun n => !n.isScope && n.parent == p && t n.name) s.nodes 0).bind (fun j => varIdx (idAt ids j)) := by
  rw [varsIn_eq]
  refine lookup_level hr varIdx (fun k => (b.vars.getD k default).name) (fun n => !n.isScope) (fun i hi t => ?_) p t
  have := hr.nodeAt hi
  cases h : idAt ids i with
  | scope k => rw [h] at this; simp only [varIdx, Option.any_none, this.1, Bool.not_true, Bool.false_and]
  | var k => rw [h] at this; simp only [varIdx, Option.any_some, this.1, this.2.2.1, Bool.not_false, Bool.true_and]

end

theorem rel_restack {b : Builder} {s : SpecSt} {ids : List ItemId} (hr : Rel b s ids) {st' : List SEntry}
    {bst : List StackEntry} (hst : StackRel s.nodes ids st' bst) (hd : Desc st') (hinv : Inv { s with stack := st' }) :
    Rel { b with stack := bst } { s with stack := st' } ids :=
  ⟨hr.len, hr.cnt, hr.nodup, hr.node, hr.chain, hst, hd, hinv, hr.porder⟩

theorem findDup_rel {b : Builder} {s : SpecSt} {ids : List ItemId} (hr : Rel b s ids) (name : String) {par : Option Nat}
    (hpar : ParentRel ids (curParent s.stack) par) :
    findDup b name (nodeCount b + 1) (childOf b par) =
      (findIdx? (fun n => n.isScope && n.parent == curParent s.stack && n.name == name) s.nodes 0).bind
        (fun j => scopeIdx (idAt ids j)) := by
  rw [← firstOf_eq_childOf b hpar, findDup_eq_find]
  exact lookup_scope_level hr (curParent s.stack) name

theorem findLast_rel {b : Builder} {s : SpecSt} {ids : List ItemId} (hr : Rel b s ids) {j k : Nat}
    (hjk : ids[j]? = some (.scope k)) :
    ((b.scopes.getD k default).child).map (findLast b (nodeCount b + 1)) = lastOf s.nodes ids (some j) := by
  rw [← firstOf_scope b ids j k hjk, findLast_eq_getLast?, lastOf,
    iterItems_chain (hr.chain (some j)) (Nat.lt_add_one_of_lt (hr.kids_length_lt (some j)))]

/-- every operation of a balanced history: the builder does not panic and keeps representing the specification -/
theorem rel_step (b : Builder) (s s' : SpecSt) (ids : List ItemId) (op : Op) (hr : Rel b s ids)
    (hs : specStep s op = some s') : ∃ b' ids', step b op = some b' ∧ Rel b' s' ids' := by
  have hinv' := inv_step hr.inv hs
  cases op with
  | pop =>
    cases hst : s.stack with
    | nil => simp [specStep, hst] at hs
    | cons en rest =>
      simp only [specStep, hst, Option.some.injEq] at hs; subst hs
      obtain ⟨e, br, h1, h2, hd⟩ : ∃ e br, b.stack = e :: br ∧ StackRel s.nodes ids rest br ∧ Desc rest := by
        have hsr := hst ▸ hr.stack
        have hd := hst ▸ hr.desc
        cases en with
        | flat => obtain ⟨e, br, h1, _, _, h4⟩ := hsr; exact ⟨e, br, h1, h4, hd⟩
        | scope j => obtain ⟨e, br, _, h1, _, _, _, _, h6⟩ := hsr; exact ⟨e, br, h1, h6, hd.2⟩
      exact ⟨{ b with stack := br }, ids, by simp [step, h1], rel_restack hr h2 hd hinv'⟩
  | var name sig =>
    obtain ⟨b', h1, h2⟩ := step_var_rel hr name sig
    simp only [specStep, Option.some.injEq] at hs
    subst hs
    exact ⟨b', _, h1, h2⟩
  | scope name fl =>
    obtain ⟨pos, e, hfp, _, hpar, _⟩ := findParent_rel hr.len hr.stack hr.desc
    rw [step_scope name fl hfp, findDup_rel hr name hpar]
    simp only [specStep] at hs
    cases hf : findIdx? (fun n => n.isScope && n.parent == curParent s.stack && n.name == name) s.nodes 0 with
    | some j =>
      simp only [hf, Option.some.injEq] at hs; subst hs
      obtain ⟨hjlt, hjq, _⟩ := findIdx?_spec hf
      simp only [Bool.and_eq_true, beq_iff_eq] at hjq
      obtain ⟨k, hidj⟩ := found_scope hr _ name j hf
      simp only [Option.bind_some, idAt_of_getElem? hidj, scopeIdx]
      refine ⟨_, ids, rfl, ?_⟩
      refine rel_restack hr ⟨_, _, k, rfl, hidj, rfl, rfl, findLast_rel hr hidj, hr.stack⟩ ⟨?_, hr.desc⟩ hinv'
      -- a child of the current scope was declared after every open scope
      intro j' hj'
      obtain ⟨j1, hc, hle⟩ := Desc.le_curParent hr.desc hj'
      have := hr.inv.parent_lt hjlt (hjq.1.2.trans hc)
      omega
    | none =>
      simp only [hf, Option.bind_none] at hs ⊢
      cases fl with
      | true =>
        simp only [if_true, Option.some.injEq] at hs ⊢; subst hs
        refine ⟨_, ids, rfl, ?_⟩
        exact rel_restack hr ⟨_, _, rfl, rfl, rfl, hr.stack⟩ hr.desc hinv'
      | false =>
        simp only [Bool.false_eq_true, if_false, Option.some.injEq] at hs ⊢; subst hs
        obtain ⟨b1, par, hadd, hrel⟩ := step_scope_new_rel hr hinv'
        exact ⟨_, _, by rw [hadd]; rfl, hrel⟩

theorem rel_init : Rel {} {} [] := by
  refine ⟨rfl, rfl, List.nodup_nil, ?_, ?_, ?_, trivial, inv_init, fun k k' hk => by simp at hk⟩
  · intro i n x hn _; simp at hn
  · intro p; cases p <;> exact .nil
  · exact ⟨_, rfl, rfl, rfl, rfl⟩

theorem rel_run (ops : List Op) : ∀ (b : Builder) (s s' : SpecSt) (ids : List ItemId), Rel b s ids →
    ops.foldl (fun acc op => acc.bind (fun s => specStep s op)) (some s) = some s' →
    ∃ b' ids', ops.foldl (fun acc op => acc.bind (fun b => step b op)) (some b) = some b' ∧ Rel b' s' ids' := by
  intro b s s' ids hr h
  -- the two runs are related as long as the specification has not failed
  refine List.foldl_rel (r := fun ob os => ∀ s', os = some s' → ∃ b' ids', ob = some b' ∧ Rel b' s' ids')
    (fun _ h => ?_) (fun op _ ob os hrel s1 h1 => ?_) s' h
  · cases h; exact ⟨b, ids, rfl, hr⟩
  · cases os with
    | none => cases h1
    | some s0 =>
      obtain ⟨b0, ids0, rfl, hr0⟩ := hrel s0 rfl
      exact rel_step b0 s0 s1 ids0 op hr0 h1

end Wellen.Hier
