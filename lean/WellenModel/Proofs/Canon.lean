import WellenModel.Model.Spec
import WellenModel.Proofs.Tables
/-! Canonical form: `canon` removes exactly the immediate repetitions; the kind chosen when a value is written is the minimal
one; what the VCD path's character handling (`charsToNums`, `expand_special_vector_cases`) and `States::join` do. -/
namespace Wellen.Spec
open Wellen.Bits Wellen.Store

def noAdjRepeat : List (Nat × Value) → Prop
  | [] => True
  | [_] => True
  | a :: b :: r => a.2 ≠ b.2 ∧ noAdjRepeat (b :: r)

theorem noAdjRepeat_cons (a : Nat × Value) (l : List (Nat × Value)) :
    noAdjRepeat (a :: l) ↔ (∀ b r, l = b :: r → a.2 ≠ b.2) ∧ noAdjRepeat l := by
  cases l <;> simp [noAdjRepeat]

theorem canon_go_noAdjRepeat (p : Nat × Value) (l : List (Nat × Value)) : noAdjRepeat (p :: canon.go p.2 l) := by
  induction l generalizing p with
  | nil => trivial
  | cons y l ih =>
    rw [canon.go]
    split
    · exact ih p
    · rename_i h
      exact ⟨Ne.symm h, ih y⟩

theorem canon_noAdjRepeat (l : List (Nat × Value)) : noAdjRepeat (canon l) := by
  cases l with
  | nil => trivial
  | cons x rest => exact canon_go_noAdjRepeat x rest

theorem canon_go_sublist (prev : Value) (l : List (Nat × Value)) : (canon.go prev l).Sublist l := by
  induction l generalizing prev with
  | nil => simp [canon.go]
  | cons y l ih =>
    simp only [canon.go]
    split
    · exact List.Sublist.cons _ (ih prev)
    · exact List.Sublist.cons_cons _ (ih y.2)

theorem canon_sublist (l : List (Nat × Value)) : (canon l).Sublist l := by
  cases l with
  | nil => simp [canon]
  | cons x rest => exact List.Sublist.cons_cons _ (canon_go_sublist x.2 rest)

theorem canon_go_id (p : Nat × Value) (l : List (Nat × Value)) (h : noAdjRepeat (p :: l)) : canon.go p.2 l = l := by
  induction l generalizing p with
  | nil => rfl
  | cons y l ih => rw [canon.go, if_neg h.1.symm, ih y h.2]

theorem canon_id (l : List (Nat × Value)) (h : noAdjRepeat l) : canon l = l := by
  cases l with
  | nil => rfl
  | cons x rest => exact congrArg (x :: ·) (canon_go_id x rest h)

theorem kindOf_two (syms : List Nat) : kindOf syms = .two ↔ ∀ v ∈ syms, v ≤ 1 := by
  simp only [kindOf, List.all_eq_true, decide_eq_true_eq]
  split
  · rename_i h1; exact ⟨fun _ => h1, fun _ => rfl⟩
  · rename_i h1; exact ⟨fun h => (by split at h <;> cases h), fun h => absurd h h1⟩

theorem kindOf_four (syms : List Nat) :
    kindOf syms = .four ↔ (∀ v ∈ syms, v ≤ 3) ∧ ∃ v ∈ syms, 2 ≤ v := by
  have hex : (∃ v ∈ syms, 2 ≤ v) ↔ ¬ ∀ v ∈ syms, v ≤ 1 := by
    simp only [Classical.not_forall, Nat.not_le, exists_prop]; rfl
  simp only [hex, kindOf, List.all_eq_true, decide_eq_true_eq]
  split
  · rename_i h1; exact ⟨nofun, fun h => absurd h1 h.2⟩
  · rename_i h1
    split
    · rename_i h3; exact ⟨fun _ => ⟨h3, h1⟩, fun _ => rfl⟩
    · rename_i h3; exact ⟨nofun, fun h => absurd h.1 h3⟩

theorem or_lt_iff (a b k : Nat) : a ||| b < 2 ^ k ↔ a < 2 ^ k ∧ b < 2 ^ k :=
  ⟨fun h => ⟨Nat.lt_of_le_of_lt Nat.left_le_or h, Nat.lt_of_le_of_lt Nat.right_le_or h⟩, fun ⟨ha, hb⟩ => Nat.or_lt_two_pow ha hb⟩

theorem foldl_or_lt {α : Type} (f : α → Nat) (l : List α) (k acc : Nat) :
    l.foldl (fun acc x => acc ||| f x) acc < 2 ^ k ↔ acc < 2 ^ k ∧ ∀ x ∈ l, f x < 2 ^ k := by
  induction l generalizing acc with
  | nil => simp
  | cons y r ih => simp only [List.foldl_cons, ih, or_lt_iff, List.mem_cons, forall_eq_or_imp, and_assoc]

/-- the kind of a union that is below a power of two exactly when every symbol is: the smallest kind of the symbols
(what `check_states` and `check_min_state` both compute) -/
theorem fromValue_eq_kindOf (syms : List Nat) (u : Nat) (h : ∀ k, u < 2 ^ k ↔ ∀ x ∈ syms, x < 2 ^ k) (h16 : u < 2 ^ 4) :
    States.fromValue u = kindOf syms := by
  have e : ∀ n k, n + 1 = 2 ^ k → syms.all (· ≤ n) = decide (u < 2 ^ k) := fun n k hn => by
    rw [Bool.eq_iff_iff, List.all_eq_true, decide_eq_true_eq, h k, ← hn]
    simp only [decide_eq_true_eq, Nat.lt_succ_iff]
  rw [fromValue_eq ⟨u, h16⟩, kindOf, e 1 1 rfl, e 3 2 rfl]
  simp only [decide_eq_true_eq]

theorem fromValue_orFold (nums : List Nat) (hv : ∀ v ∈ nums, v < 16) :
    States.fromValue (nums.foldl (· ||| ·) 0) = kindOf nums :=
  have h := fun k => (foldl_or_lt id nums k 0).trans (and_iff_right (Nat.two_pow_pos k))
  fromValue_eq_kindOf nums _ h ((h 4).mpr hv)

theorem charsToNums_cons {c : Nat} {r n : List Nat} :
    charsToNums (c :: r) = some n ↔ ∃ v vs, bitCharToNum c = some v ∧ charsToNums r = some vs ∧ n = v :: vs := by
  simp only [charsToNums]
  cases bitCharToNum c <;> cases charsToNums r <;> simp [eq_comm]

theorem charsToNums_lt {chars nums : List Nat} (h : charsToNums chars = some nums) : ∀ v ∈ nums, v < 9 := by
  induction chars generalizing nums with
  | nil => cases h; simp
  | cons c r ih =>
    obtain ⟨v, vs, hc, hr, rfl⟩ := charsToNums_cons.mp h
    intro x hx
    rcases List.mem_cons.mp hx with rfl | hx
    · exact (bitChar_some c x hc).1
    · exact ih hr x hx

theorem checkStates_eq (chars : List Nat) : checkStates chars = (charsToNums chars).map kindOf := by
  unfold checkStates
  cases hn : charsToNums chars with
  | none => rfl
  | some nums =>
    exact congrArg some (fromValue_orFold nums fun v hv => Nat.lt_trans (charsToNums_lt hn v hv) (by decide))

theorem checkStates_minimal (chars : List Nat) (st : States) (h : checkStates chars = some st) :
    ∃ nums, charsToNums chars = some nums ∧ st = kindOf nums := by
  obtain ⟨nums, hn, rfl⟩ := Option.map_eq_some_iff.mp (checkStates_eq chars ▸ h)
  exact ⟨nums, hn, rfl⟩

theorem kindOf_fits {nums : List Nat} (h9 : ∀ v ∈ nums, v < 9) : ∀ v ∈ nums, v < 2 ^ (kindOf nums).bits := by
  intro v hv
  cases h : kindOf nums with
  | two => exact Nat.lt_succ_of_le ((kindOf_two nums).mp h v hv)
  | four => exact Nat.lt_succ_of_le (((kindOf_four nums).mp h).1 v hv)
  | nine => exact Nat.lt_trans (h9 v hv) (by decide)

theorem kindOf_le (syms : List Nat) (st : States) (h : ∀ x ∈ syms, x < 2 ^ st.bits) : (kindOf syms).toNat ≤ st.toNat := by
  cases st with
  | two => rw [(kindOf_two syms).mpr fun x hx => Nat.le_of_lt_succ (h x hx)]; exact Nat.le_refl _
  | four =>
    unfold kindOf
    split
    · decide
    · rw [if_pos (List.all_eq_true.mpr fun x hx => decide_eq_true (Nat.le_of_lt_succ (h x hx)))]; decide
  | nine => cases kindOf syms <;> decide

theorem kindOf_pad {k v : Nat} {n0 : List Nat} (h : v = 0 ∨ v ∈ n0) : kindOf (List.replicate k v ++ n0) = kindOf n0 := by
  have key : ∀ p : Nat → Bool, p 0 = true → (List.replicate k v ++ n0).all p = n0.all p := fun p hp0 => by
    rw [List.all_append, Bool.and_eq_right_iff_imp]
    intro hn
    exact List.all_eq_true.mpr fun x hx => by
      rw [(List.mem_replicate.mp hx).2]
      exact h.elim (fun e => e ▸ hp0) (List.all_eq_true.mp hn v)
  unfold kindOf
  rw [key (· ≤ 1) rfl, key (· ≤ 3) rfl]

theorem charsToNums_length {chars nums : List Nat} (h : charsToNums chars = some nums) : nums.length = chars.length := by
  induction chars generalizing nums with
  | nil => cases h; rfl
  | cons c r ih =>
    obtain ⟨v, vs, -, hr, rfl⟩ := charsToNums_cons.mp h
    simp [ih hr]

theorem charsToNums_append {a b na nb : List Nat} (ha : charsToNums a = some na) (hb : charsToNums b = some nb) :
    charsToNums (a ++ b) = some (na ++ nb) := by
  induction a generalizing na with
  | nil => cases ha; exact hb
  | cons c r ih =>
    obtain ⟨v, vs, hc, hr, rfl⟩ := charsToNums_cons.mp ha
    exact charsToNums_cons.mpr ⟨v, vs ++ nb, hc, ih hr, rfl⟩

theorem charsToNums_replicate (k c v : Nat) (h : bitCharToNum c = some v) :
    charsToNums (List.replicate k c) = some (List.replicate k v) := by
  induction k with
  | zero => rfl
  | succ k ih => simp [List.replicate_succ, charsToNums, h, ih]

/-- a token shorter than the signal is left-extended with `0` (head `0`/`1`) or with its head (`x`/`z`) -/
theorem expandSpecial_some {vb : List Nat} {len : Nat} {chars : List Nat} (he : expandSpecial vb len = some chars) :
    ∃ c r p, vb = c :: r ∧ vb.length < len ∧ chars = List.replicate (len - vb.length) p ++ vb ∧
      ((c = 49 ∨ c = 48) ∧ p = 48 ∨ (c = 120 ∨ c = 88 ∨ c = 122 ∨ c = 90) ∧ p = c) := by
  unfold expandSpecial at he
  split at he
  · cases he
  · rename_i hlt
    cases vb with
    | nil => cases he
    | cons c r =>
      simp only at he
      split at he
      · rename_i h01; cases he; exact ⟨c, r, 48, rfl, by omega, rfl, .inl ⟨h01, rfl⟩⟩
      · split at he
        · rename_i hxz; cases he; exact ⟨c, r, c, rfl, by omega, rfl, .inr ⟨hxz, rfl⟩⟩
        · cases he

theorem expandSpecial_length {value : List Nat} {len : Nat} {out : List Nat} (h : expandSpecial value len = some out) :
    out.length = len := by
  obtain ⟨c, r, p, -, hlt, rfl, -⟩ := expandSpecial_some h
  rw [List.length_append, List.length_replicate]; omega

theorem expandSpecial_nums {vb : List Nat} {len : Nat} {chars n0 nums : List Nat}
    (he : expandSpecial vb len = some chars) (h0 : charsToNums vb = some n0) (hn : charsToNums chars = some nums) :
    ∃ v0 vs, vb.length < len ∧ n0 = v0 :: vs ∧ v0 ≤ 3 ∧
      nums = List.replicate (len - vb.length) (if v0 ≤ 1 then 0 else v0) ++ n0 := by
  obtain ⟨c, r, p, rfl, hlt, rfl, hp⟩ := expandSpecial_some he
  obtain ⟨v0, vs, hc0, -, rfl⟩ := charsToNums_cons.mp h0
  obtain ⟨cl1, cl2⟩ := (bitChar_row c v0 hc0).2
  have hpv : bitCharToNum p = some (if v0 ≤ 1 then 0 else v0) ∧ v0 ≤ 3 := by
    rcases hp with ⟨h01, rfl⟩ | ⟨hxz, rfl⟩
    · have h1 := cl1.mpr h01
      exact ⟨by rw [if_pos h1]; decide, by omega⟩
    · have h3 := cl2.mpr hxz
      exact ⟨by rw [if_neg h3.1]; exact hc0, h3.2⟩
  rw [charsToNums_append (charsToNums_replicate _ p _ hpv.1) h0] at hn
  exact ⟨v0, vs, hlt, rfl, hpv.2, (Option.some.inj hn).symm⟩

/-- the token brought to the signal's width by `add_vcd_change` — as it is, or left-extended: the numbers have that width and
the smallest kind of the token's own -/
theorem toWidth_nums {vb chars n0 nums : List Nat} {bits : Nat}
    (hch : (if vb.length = bits then some vb else expandSpecial vb bits) = some chars)
    (h0 : charsToNums vb = some n0) (hn : charsToNums chars = some nums) :
    nums.length = bits ∧ kindOf nums = kindOf n0 ∧
      (vb.length = bits ∧ nums = n0 ∨ ∃ v0 vs, vb.length < bits ∧ n0 = v0 :: vs ∧ v0 ≤ 3 ∧
        nums = List.replicate (bits - vb.length) (if v0 ≤ 1 then 0 else v0) ++ n0) := by
  split at hch
  · cases hch; cases h0.symm.trans hn
    exact ⟨(charsToNums_length h0).trans ‹_›, rfl, .inl ⟨‹_›, rfl⟩⟩
  · obtain ⟨v0, vs, hlt, rfl, h3, rfl⟩ := expandSpecial_nums hch h0 hn
    refine ⟨by rw [charsToNums_length hn, expandSpecial_length hch], kindOf_pad ?_,
      .inr ⟨v0, vs, hlt, rfl, h3, rfl⟩⟩
    split
    · exact .inl rfl
    · exact .inr (List.mem_cons_self ..)

theorem join_ge_left (a b : States) : a.toNat ≤ (States.join a b).toNat := by
  unfold States.join; split <;> omega
theorem join_ge_right (a b : States) : b.toNat ≤ (States.join a b).toNat := by
  unfold States.join; split <;> omega

theorem foldl_join_ge (l : List States) (a : States) :
    a.toNat ≤ (l.foldl States.join a).toNat ∧ ∀ x ∈ l, x.toNat ≤ (l.foldl States.join a).toNat := by
  induction l generalizing a with
  | nil => simp
  | cons y r ih =>
    obtain ⟨h1, h2⟩ := ih (States.join a y)
    exact ⟨Nat.le_trans (join_ge_left a y) h1, List.forall_mem_cons.mpr ⟨Nat.le_trans (join_ge_right a y) h1, h2⟩⟩

end Wellen.Spec
