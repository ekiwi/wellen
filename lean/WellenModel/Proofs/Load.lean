import WellenModel.Model.Load
/-! `load_signals` / `unload_signals` on a waveform: the table of loaded signals refines the set of their ids (`step_refines`,
`run_refines`); `loadSignals_spec`: what one call returns. -/
namespace Wellen.Load

variable {σ : Type}

theorem mem_insertUniq (x y : Nat) (l : List Nat) : y ∈ insertUniq x l ↔ y = x ∨ y ∈ l := by
  fun_induction insertUniq x l with
  | case1 => simp
  | case2 a r h => simp
  | case3 r h => simp
  | case4 a r h1 h2 ih => rw [List.mem_cons, ih, List.mem_cons]; exact or_left_comm

theorem mem_sortDedup (y : Nat) (ids : List Nat) : y ∈ sortDedup ids ↔ y ∈ ids := by
  unfold sortDedup
  suffices h : ∀ acc, y ∈ ids.foldl (fun acc x => insertUniq x acc) acc ↔ y ∈ acc ∨ y ∈ ids by
    simpa using h []
  induction ids with
  | nil => intro acc; simp
  | cons a r ih =>
    intro acc
    rw [List.foldl_cons, ih, mem_insertUniq, List.mem_cons, or_comm (a := y = a), or_assoc]

theorem insertUniq_sorted (x : Nat) (l : List Nat) (h : l.Pairwise (· < ·)) :
    (insertUniq x l).Pairwise (· < ·) := by
  fun_induction insertUniq x l with
  | case1 => exact List.pairwise_singleton ..
  | case2 a r hlt =>
    refine List.pairwise_cons.mpr ⟨fun b hb => ?_, h⟩
    rcases List.mem_cons.mp hb with rfl | hb
    · exact hlt
    · exact Nat.lt_trans hlt ((List.pairwise_cons.mp h).1 b hb)
  | case3 r _ => exact h
  | case4 a r h1 h2 ih =>
    obtain ⟨ha, hr⟩ := List.pairwise_cons.mp h
    refine List.pairwise_cons.mpr ⟨fun b hb => ?_, ih hr⟩
    rcases (mem_insertUniq x b r).mp hb with rfl | hb
    · omega
    · exact ha b hb

theorem sortDedup_sorted (ids : List Nat) : (sortDedup ids).Pairwise (· < ·) :=
  List.foldlRecOn ids _ (motive := fun acc => acc.Pairwise (· < ·)) .nil fun acc h x _ => insertUniq_sorted x acc h

theorem loadSignals_spec (src : Source σ) (ids : List Nat) :
    src.loadSignals ids = (sortDedup ids).map fun id => (id, src.content id) := by
  unfold Source.loadSignals Source.content
  simp only [List.map_map, ← List.map_prod_left_eq_zip]
  apply List.map_congr_left
  intro id _
  simp only [Function.comp]
  cases src.aliasOf id with
  | none => rfl
  | some p => obtain ⟨a, b, c⟩ := p; rfl

theorem foldl_update (val : Nat → Option σ) (l : List Nat) (w : Nat → Option σ) (i : Nat) :
    l.foldl (fun m a => update m a (val a)) w i = if i ∈ l then val i else w i := by
  induction l generalizing w with
  | nil => simp
  | cons a r ih =>
    simp only [List.foldl_cons, ih, List.mem_cons, update]
    by_cases h1 : i ∈ r <;> by_cases h2 : i = a <;> simp [h1, h2]

/-- the refinement invariant: the map holds exactly the abstract set, each id with its content -/
def Refines (src : Source σ) (w : Nat → Option σ) (s : Nat → Bool) : Prop :=
  ∀ i, w i = if s i then some (src.content i) else none

theorem step_refines (src : Source σ) (w : Nat → Option σ) (s : Nat → Bool) (op : Op)
    (h : Refines src w s) : Refines src (stepW src w op) (stepS s op) := by
  intro i
  have hi := h i
  cases op with
  | load ids =>
    simp only [stepW, stepS, loadSignals_spec, List.foldl_map, foldl_update (fun id => some (src.content id)),
      mem_sortDedup, List.mem_filter, hi]
    by_cases hs : s i = true <;> by_cases hm : i ∈ ids <;> simp [hs, hm]
  | unload ids =>
    simp only [stepW, stepS, foldl_update (fun _ => none), hi]
    by_cases hs : s i = true <;> by_cases hm : i ∈ ids <;> simp [hs, hm]

theorem run_refines (src : Source σ) (ops : List Op) (w : Nat → Option σ) (s : Nat → Bool)
    (h : Refines src w s) : Refines src (ops.foldl (stepW src) w) (ops.foldl stepS s) :=
  List.foldl_rel h fun op _ w s h => step_refines src w s op h

end Wellen.Load
