import WellenModel.Model.Slice
import WellenModel.Proofs.Pack
/-!
Bit positions of a packed value. `symAt` addresses the slots from the least significant end: the slots read from the front
(`unpackAll`) are the symbols at positions `len·bib − 1 … 0`, and `n_state_to_bit_string` lists positions `bits − 1 … 0`.
`slice_n_states` / `compress_template` = packing of the symbols fetched at the requested positions.
-/
namespace Wellen.Slice
open Wellen.Bits Wellen.Store

/-- the symbols fetched by `repack`, highest position first -/
def fetched (s : States) (data : List Nat) (lsb n : Nat) : List Nat :=
  (List.range n).reverse.map fun ob => symAt s data (lsb + ob)

theorem fetched_succ (s : States) (data : List Nat) (lsb n : Nat) :
    fetched s data lsb (n + 1) = symAt s data (lsb + n) :: fetched s data lsb n := by
  simp [fetched, List.range_succ]

theorem fetched_length (s : States) (data : List Nat) (lsb n : Nat) : (fetched s data lsb n).length = n := by
  simp [fetched]

theorem symAt_lt (s : States) (data : List Nat) (i : Nat) : symAt s data i < 2 ^ s.bits := by
  rw [symAt, mask_eq, Nat.and_two_pow_sub_one_eq_mod]
  exact Nat.mod_lt _ (Nat.two_pow_pos _)

theorem symAt_cons_high (s : States) (b : Nat) (r : List Nat) (ii : Nat) (hi : ii < s.bib) :
    symAt s (b :: r) (ii + r.length * s.bib) = sym s b ii := by
  have hb := bib_pos s
  have h1 : (ii + r.length * s.bib) / s.bib = r.length := by
    rw [Nat.add_mul_div_right _ _ hb, Nat.div_eq_of_lt hi]; omega
  have h2 : (ii + r.length * s.bib) % s.bib = ii := by
    rw [Nat.add_mul_mod_self_right, Nat.mod_eq_of_lt hi]
  simp only [symAt, h1, h2, List.length_cons]
  have : r.length + 1 - 1 - r.length = 0 := by omega
  rw [this]; rfl

theorem symAt_cons_low (s : States) (b : Nat) (r : List Nat) (i : Nat) (hi : i < r.length * s.bib) :
    symAt s (b :: r) i = symAt s r i := by
  have hq : i / s.bib < r.length := by rw [Nat.div_lt_iff_lt_mul (bib_pos s)]; exact hi
  simp only [symAt, List.length_cons]
  have e : r.length + 1 - 1 - i / s.bib = (r.length - 1 - i / s.bib) + 1 := by omega
  rw [e]
  rfl

theorem fetched_cons (s : States) (b : Nat) (r : List Nat) (k : Nat) (hk : k ≤ s.bib) :
    fetched s (b :: r) 0 (r.length * s.bib + k) = unpackByte s k b ++ fetched s r 0 (r.length * s.bib) := by
  simp only [fetched, List.range_add, List.reverse_append, List.map_append, ← List.map_reverse, List.map_map, unpackByte_eq, Nat.zero_add]
  congr 1
  · apply List.map_congr_left
    intro ii hii
    simp only [List.mem_reverse, List.mem_range] at hii
    simp only [Function.comp, Nat.add_comm _ ii]
    exact symAt_cons_high s b r ii (by omega)
  · apply List.map_congr_left
    intro i hi
    simp only [List.mem_reverse, List.mem_range] at hi
    exact symAt_cons_low s b r i hi

theorem unpackAll_eq_fetched (s : States) (d : List Nat) : unpackAll s d = fetched s d 0 (d.length * s.bib) := by
  induction d with
  | nil => simp [fetched, unpackAll]
  | cons b r ih =>
    have : (b :: r).length * s.bib = r.length * s.bib + s.bib := by simp [Nat.add_mul]
    rw [this, fetched_cons s b r s.bib (Nat.le_refl _), ← ih, unpackAll_cons]

/-- `n_state_to_bit_string` lists the symbols at bit positions `bits − 1 … 0` -/
theorem toSyms_eq_fetched (s : States) (d : List Nat) (bits : Nat) (hd : d.length = divCeil bits s.bib) :
    toSyms s d bits = fetched s d 0 bits := by
  rw [toSyms_eq_drop s d bits hd, unpackAll_eq_fetched, fetched, map_reverse_range_drop (by rw [hd, divCeil_mul _ _ (bib_pos s)])]
  rfl

theorem toSyms_lt (s : States) (d : List Nat) (bits : Nat) (hd : d.length = divCeil bits s.bib) :
    ∀ x ∈ toSyms s d bits, x < 2 ^ s.bits := by
  intro x hx
  rw [toSyms_eq_fetched s d bits hd] at hx
  obtain ⟨i, _, rfl⟩ := List.mem_map.mp hx
  exact symAt_lt s d _

theorem repack_eq_write (inS outS : States) (data : List Nat) (lsb : Nat) (n w : Nat) :
    repack inS outS data lsb n w = writeAux outS (fetched inS data lsb n) w none := by
  induction n generalizing w with
  | zero => simp [repack, fetched, writeAux]
  | succ n ih =>
    rw [fetched_succ]
    simp only [repack, writeAux, fetched_length, pushes_iff]
    split
    · rw [ih 0]
    · rw [ih]

/-- **re-packing keeps the symbols**: fetch `n` symbols from bit `lsb` of a value packed with `inS`, pack them with `outS`
(which they fit): rendered again, they are the symbols fetched. `slice_n_states` is the case `inS = outS`, `compress_template`
the case `lsb = 0`. -/
theorem repack_spec (inS outS : States) (data : List Nat) (lsb n : Nat)
    (hfit : ∀ i, i < n → symAt inS data (lsb + i) < 2 ^ outS.bits) :
    toSyms outS (repack inS outS data lsb n 0) n = fetched inS data lsb n := by
  have := pack_unpack outS (fetched inS data lsb n) (fun v hv => by
    simp only [fetched, List.mem_map, List.mem_reverse, List.mem_range] at hv
    obtain ⟨ob, hob, rfl⟩ := hv
    exact hfit ob hob)
  rwa [fetched_length, writeNState, ← repack_eq_write] at this

/-! `compress_template` (wavemem.rs), the re-packing `add_n_bit_change` applies when a pre-encoded value needs fewer states than it
was handed over with, is `repack` from position 0. -/

theorem div_of_reversed_pos (L b k : Nat) (hb : 0 < b) (hk : k < L * b) : (L * b - k - 1) / b = L - 1 - k / b := by
  have hq := Nat.div_add_mod k b
  have hr := Nat.mod_lt k hb
  have hkb : k / b < L := Nat.div_lt_of_lt_mul (Nat.mul_comm L b ▸ hk)
  rw [Nat.mul_comm] at hq
  apply Nat.div_eq_of_lt_le
  · rw [Nat.sub_mul, Nat.sub_mul, Nat.one_mul]; omega
  · rw [show L - 1 - k / b + 1 = L - k / b by omega, Nat.sub_mul]; omega

theorem compressAux_eq_repack (inS outS : States) (value : List Nat) (n w : Nat) (hn : n ≤ value.length * inS.bib) :
    compressAux value inS outS (value.length * inS.bib) n w = repack inS outS value 0 n w := by
  induction n generalizing w with
  | zero => rfl
  | succ n ih =>
    simp only [compressAux, repack, symAt, Nat.zero_add]
    rw [div_of_reversed_pos value.length inS.bib n (bib_pos inS) (by omega)]
    split
    · rw [ih 0 (by omega)]
    · rw [ih _ (by omega)]

theorem compressTemplate_eq_repack (inS outS : States) (value : List Nat) (bits : Nat) (hbits : bits ≤ value.length * inS.bib) :
    compressTemplate value inS outS bits = repack inS outS value 0 bits 0 :=
  compressAux_eq_repack inS outS value bits 0 hbits

theorem compressTemplate_length (inS outS : States) (value : List Nat) (bits : Nat) (hbits : bits ≤ value.length * inS.bib) :
    (compressTemplate value inS outS bits).length = divCeil bits outS.bib := by
  rw [compressTemplate_eq_repack inS outS value bits hbits, repack_eq_write, writeAux_length, fetched_length]

end Wellen.Slice
