import WellenModel.Model.Bits
/-! Facts about the tables extracted from the code (`Gen/Tables.lean`); re-checked by the kernel
whenever the tables change. -/
namespace Wellen.Bits

def toLower (c : Nat) : Nat := if 65 ≤ c ∧ c ≤ 90 then c + 32 else c

/-- every row of the table: an accepted value character is rendered back as its lower-case self, and which characters denote
0 / 1 and which x / z (the classes `expand_special_vector_cases` extends with). One pass over the table; looking each of the
256 characters up separately makes the kernel walk the list 256 times. -/
theorem bitChar_rows : ∀ p ∈ Gen.bitCharToNumTable.zipIdx, ∀ v, p.1 = some v →
    (v < 9 ∧ Gen.lookup9[v]? = some (toLower p.2)) ∧
    ((v ≤ 1 ↔ (p.2 = 49 ∨ p.2 = 48)) ∧ ((¬ v ≤ 1 ∧ v ≤ 3) ↔ (p.2 = 120 ∨ p.2 = 88 ∨ p.2 = 122 ∨ p.2 = 90))) := by
  decide +kernel

theorem bitChar_row (c v : Nat) (h : bitCharToNum c = some v) :
    (v < 9 ∧ Gen.lookup9[v]? = some (toLower c)) ∧
    ((v ≤ 1 ↔ (c = 49 ∨ c = 48)) ∧ ((¬ v ≤ 1 ∧ v ≤ 3) ↔ (c = 120 ∨ c = 88 ∨ c = 122 ∨ c = 90))) := by
  unfold bitCharToNum at h
  rw [List.getD_eq_getElem?_getD] at h
  cases hg : Gen.bitCharToNumTable[c]? with
  | none => rw [hg] at h; cases h
  | some o =>
    rw [hg] at h
    exact bitChar_rows (o, c) (List.mem_zipIdx_iff_getElem?.mpr (by simpa using hg)) v h

theorem bitChar_some (c v : Nat) (h : bitCharToNum c = some v) : v < 9 ∧ Gen.lookup9[v]? = some (toLower c) :=
  (bitChar_row c v h).1

theorem fromValue_eq : ∀ v : Fin 16,
    States.fromValue v.val = if v.val < 2 then States.two else if v.val < 4 then States.four else States.nine := by
  decide +kernel

theorem fromValue_or : ∀ a b : Fin 16,
    States.fromValue (a.val ||| b.val) = States.join (States.fromValue a.val) (States.fromValue b.val) := by
  decide +kernel

theorem lookup9_nodup : Gen.lookup9.Nodup ∧ Gen.lookup9.length = 9 := by decide

end Wellen.Bits
