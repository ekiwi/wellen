import WellenModel.Proofs.HierRefine
import WellenModel.Model.HierDump
/-! Observers of the pointer-level builder under the representation relation `Rel`: full names and the lookup functions
return what the specification (`specFullName`, `specLookupScope`, `specLookupVar`, `specLookupVarIdx`) says. -/
namespace Wellen.Hier

/-- names from the root down to node `i` -/
def specPath (nodes : List FNode) : Nat → Nat → List String
  | 0, i => [(nodes.getD i default).name]
  | fuel + 1, i =>
    match (nodes.getD i default).parent with
    | none => [(nodes.getD i default).name]
    | some p => specPath nodes fuel p ++ [(nodes.getD i default).name]

theorem specPath_ne_nil (nodes : List FNode) (f i : Nat) : specPath nodes f i ≠ [] := by
  cases f with
  | zero => simp [specPath]
  | succ f => simp only [specPath]; split <;> simp

theorem specFullName_eq_path (nodes : List FNode) (f i : Nat) :
    specFullName nodes f i = ".".intercalate (specPath nodes f i) := by
  induction f generalizing i with
  | zero => simp [specFullName, specPath]
  | succ f ih =>
    simp only [specFullName, specPath]
    cases hp : (nodes.getD i default).parent with
    | none => simp
    | some p =>
      simp only
      rw [String.intercalate_append_of_ne_nil (specPath_ne_nil nodes f p) (by simp), ih p]
      simp

section
variable {b : Builder} {s : SpecSt} {ids : List ItemId} (hr : Rel b s ids)
include hr

/-- climbing the parent links of the builder collects the names the specification lists from the root down -/
theorem up_eq_path {k j : Nat} (hj : ids[j]? = some (.scope k)) {fuel F : Nat} (acc : List String) (hf : k < fuel)
    (hF : j ≤ F) : scopeFullName.up b fuel (some k) acc = specPath s.nodes F j ++ acc := by
  induction fuel generalizing k j F acc with
  | zero => omega
  | succ f ih =>
    obtain ⟨hjlt, _, hk, hname, hpar⟩ := hr.node_of_id hj
    simp only [scopeFullName.up, hname]
    cases hp : (s.nodes.getD j default).parent with
    | none =>
      rw [hp] at hpar
      rw [show (b.scopes.getD k default).parent = none from hpar]
      cases F <;> cases f <;> simp only [specPath, hp, scopeFullName.up, List.singleton_append]
    | some p =>
      rw [hp] at hpar
      obtain ⟨k', hk', hbp⟩ := hpar
      have hpj := hr.inv.parent_lt hjlt hp
      -- the parent scope has a smaller number, so the fuel that is left suffices for it
      have hkk := hr.porder k k' hk hbp
      obtain ⟨F', rfl⟩ : ∃ F', F = F' + 1 := ⟨F - 1, by omega⟩
      rw [hbp, ih (F := F') hk' _ (by omega) (by omega)]
      simp only [specPath, hp, List.append_assoc, List.singleton_append]

theorem scopeFullName_eq {k j F : Nat} (hj : ids[j]? = some (.scope k)) (hF : j ≤ F) :
    scopeFullName b k = specFullName s.nodes F j := by
  obtain ⟨_, _, hk, _⟩ := hr.node_of_id hj
  have h1 := up_eq_path hr hj (fuel := b.scopes.size + 1 + 1) (F := F) [] (by omega) hF
  rw [specFullName_eq_path, scopeFullName, ← List.append_nil (specPath _ _ _), ← h1]
  rfl

theorem varFullName_eq {k j F : Nat} (hj : ids[j]? = some (.var k)) (hF : j ≤ F) :
    varFullName b k = specFullName s.nodes F j := by
  obtain ⟨hjlt, _, hk, hname, _, hpar⟩ := hr.node_of_id hj
  simp only [varFullName, hname]
  cases hp : (s.nodes.getD j default).parent with
  | none =>
    rw [hp] at hpar
    rw [show (b.vars.getD k default).parent = none from hpar]
    cases F <;> simp only [specFullName, hp]
  | some p =>
    rw [hp] at hpar
    obtain ⟨k', hk', hbp⟩ := hpar
    have hpj := hr.inv.parent_lt hjlt hp
    obtain ⟨F', rfl⟩ : ∃ F', F = F' + 1 := ⟨F - 1, by omega⟩
    simp only [hbp, specFullName, hp, scopeFullName_eq hr hk' (show p ≤ F' by omega)]

end

/-- `specLookupScope` as the fold that `lookup_scope` is -/
theorem specLookupScope_cons (nodes : List FNode) : ∀ (rest : List String) (cur : Option Nat) (n : String),
    specLookupScope nodes cur (n :: rest) =
      rest.foldl (fun acc m => acc.bind fun j => findIdx? (fun x => x.isScope && x.parent == some j && x.name == m) nodes 0)
        (findIdx? (fun x => x.isScope && x.parent == cur && x.name == n) nodes 0)
  | [], _, _ => rfl
  | m :: r, cur, n => by
    simp only [specLookupScope, List.foldl_cons]
    cases findIdx? (fun x => x.isScope && x.parent == cur && x.name == n) nodes 0 with
    | none => simp [foldl_bind_none]
    | some j => exact specLookupScope_cons nodes r (some j) m

/-- `lookup_scope` as a fold over the path behind its first name -/
theorem lookupScope_cons (b : Builder) (n0 : String) (rest : List String) :
    lookupScope b (n0 :: rest) = rest.foldl (fun acc n => acc.bind fun sc =>
        (scopesIn (itemsOf b (b.scopes.getD sc default).child)).find? (fun c => (b.scopes.getD c default).name = n))
      ((scopesIn (itemsOf b b.firstItem)).find? (fun s => (b.scopes.getD s default).name = n0)) := by
  simp only [lookupScope]
  cases (scopesIn (itemsOf b b.firstItem)).find? (fun s => (b.scopes.getD s default).name = n0) with
  | none => exact (foldl_bind_none _ rest).symm
  | some s0 => rfl

section
variable {b : Builder} {s : SpecSt} {ids : List ItemId} (hr : Rel b s ids)
include hr

/-- `lookup_scope`. The second conjunct (what the specification finds is a scope of the builder) carries the fold over the
path, and the variable lookups go on from it. -/
theorem lookupScope_eq (names : List String) :
    lookupScope b names = (specLookupScope s.nodes none names).bind (fun j => scopeIdx (idAt ids j)) ∧
    ∀ j, specLookupScope s.nodes none names = some j → ∃ k, ids[j]? = some (.scope k) := by
  cases names with
  | nil => simp [lookupScope, specLookupScope]
  | cons n0 rest =>
    -- both sides are folds over `rest`, related level by level
    rw [lookupScope_cons, specLookupScope_cons]
    refine List.foldl_rel (r := fun ab as => ab = as.bind (fun j => scopeIdx (idAt ids j)) ∧
      ∀ j, as = some j → ∃ k, ids[j]? = some (.scope k))
      ⟨lookup_scope_level hr none n0, found_scope hr none n0⟩ fun n _ ab as ⟨h1, h2⟩ => ?_
    cases as with
    | none => exact ⟨by rw [h1]; rfl, fun j hj => by cases hj⟩
    | some j =>
      obtain ⟨k, hk⟩ := h2 j rfl
      refine ⟨?_, found_scope hr (some j) n⟩
      rw [h1, Option.bind_some, idAt_of_getElem? hk, scopeIdx, Option.bind_some, ← firstOf_scope b ids j k hk]
      exact lookup_scope_level hr (some j) n

/-- `lookup_var` and `lookup_var_with_index` differ only in the test on the name: the two sides are the builder's and the
specification's body of either, with the test `t` left open -/
theorem lookup_var_generic (path : List String) (t : String → Bool) :
    (match path with
      | [] => (varsIn (itemsOf b b.firstItem)).find? (fun v => t (b.vars.getD v default).name)
      | _ => match lookupScope b path with
        | none => none
        | some sc => (varsIn (itemsOf b (b.scopes.getD sc default).child)).find? (fun v => t (b.vars.getD v default).name)) =
    (match path with
      | [] => findIdx? (fun x => !x.isScope && x.parent == none && t x.name) s.nodes 0
      | _ => match specLookupScope s.nodes none path with
        | none => none
        | some j => findIdx? (fun x => !x.isScope && x.parent == some j && t x.name) s.nodes 0).bind
      (fun j => varIdx (idAt ids j)) := by
  cases path with
  | nil => exact lookup_var_level hr none t
  | cons n r =>
    obtain ⟨h1, h2⟩ := lookupScope_eq hr (n :: r)
    simp only [h1]
    cases hs : specLookupScope s.nodes none (n :: r) with
    | none => rfl
    | some j =>
      obtain ⟨k, hk⟩ := h2 j hs
      simp only [Option.bind_some, idAt_of_getElem? hk, scopeIdx]
      exact firstOf_scope b ids j k hk ▸ lookup_var_level hr (some j) t

end

end Wellen.Hier
