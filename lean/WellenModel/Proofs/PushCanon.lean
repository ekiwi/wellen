import WellenModel.Proofs.Canon
/-! The byte-wise de-duplication of the loaders (`Acc.push`) keeps exactly `canon` of what is pushed, whenever the entries
pushed tell the values apart. -/
namespace Wellen.Spec
open Wellen.Store

variable {β : Type} [DecidableEq β]

/-- a change list, newest first, and the next value: a value equal to the previous one is not a change -/
def pushC (chg : List (Nat × β)) (t : Nat) (v : β) : List (Nat × β) :=
  match chg with
  | (_, prev) :: _ => if prev = v then chg else (t, v) :: chg
  | [] => [(t, v)]

theorem pushC_cons (p : Nat × β) (r : List (Nat × β)) (t : Nat) (v : β) :
    pushC (p :: r) t v = if p.2 = v then p :: r else (t, v) :: p :: r := rfl

theorem mem_pushC {chg : List (Nat × β)} {t : Nat} {v : β} {x : Nat × β} (h : x ∈ pushC chg t v) :
    x ∈ chg ∨ x = (t, v) := by
  unfold pushC at h
  split at h
  · split at h
    · exact .inl h
    · exact (List.mem_cons.mp h).symm
  · exact .inr (List.mem_singleton.mp h)

theorem push_pushC (f : β → List Nat) (a : Acc) (chg : List (Nat × β)) (t : Nat) (v : β)
    (h1 : a.timesRev = chg.map (·.1)) (h2 : a.entriesRev = chg.map (fun x => f x.2))
    (hinj : ∀ p ∈ chg.head?, f p.2 = f v → p.2 = v) :
    (a.push t (f v)).timesRev = (pushC chg t v).map (·.1) ∧
    (a.push t (f v)).entriesRev = (pushC chg t v).map (fun x => f x.2) := by
  cases chg with
  | nil => simp [Acc.push, h2, pushC]
  | cons p r =>
    simp only [List.map_cons] at h1 h2
    unfold Acc.push pushC
    rw [h2]
    by_cases he : p.2 = v
    · simp [he, h1, h2]
    · have : f p.2 ≠ f v := fun e => he (hinj p rfl e)
      simp [he, this, h1]

theorem foldl_push_pushC (f : β → List Nat) (ok : β → Prop) (hinj : ∀ v w, ok v → ok w → f v = f w → v = w)
    (xs : List (Nat × β)) (a : Acc) (chg : List (Nat × β)) (hx : ∀ x ∈ xs, ok x.2) (hc : ∀ x ∈ chg, ok x.2)
    (h1 : a.timesRev = chg.map (·.1)) (h2 : a.entriesRev = chg.map (fun x => f x.2)) :
    (xs.foldl (fun a x => a.push x.1 (f x.2)) a).timesRev = (xs.foldl (fun c x => pushC c x.1 x.2) chg).map (·.1) ∧
    (xs.foldl (fun a x => a.push x.1 (f x.2)) a).entriesRev =
      (xs.foldl (fun c x => pushC c x.1 x.2) chg).map (fun x => f x.2) := by
  induction xs generalizing a chg with
  | nil => exact ⟨h1, h2⟩
  | cons y r ih =>
    obtain ⟨hy, hr⟩ := List.forall_mem_cons.mp hx
    obtain ⟨g1, g2⟩ := push_pushC f a chg y.1 y.2 h1 h2 fun p hp => hinj _ _ (hc p (List.mem_of_mem_head? hp)) hy
    exact ih _ _ hr (fun x h => (mem_pushC h).elim (hc x) fun e => e ▸ hy) g1 g2

theorem foldl_pushC_go (mk : β → Value) (hinj : ∀ a b, mk a = mk b → a = b) (l : List (Nat × β)) (p : Nat × β) (r : List (Nat × β)) :
    ((l.foldl (fun c x => pushC c x.1 x.2) (p :: r)).reverse.map fun x => (x.1, mk x.2)) =
      ((p :: r).reverse.map fun x => (x.1, mk x.2)) ++ canon.go (mk p.2) (l.map fun x => (x.1, mk x.2)) := by
  induction l generalizing p r with
  | nil => simp [canon.go]
  | cons y rest ih =>
    simp only [List.foldl_cons, List.map_cons, canon.go, pushC_cons]
    by_cases he : p.2 = y.2
    · rw [if_pos he, ih p r, if_pos (congrArg mk he.symm)]
    · rw [if_neg he, ih (y.1, y.2) (p :: r), if_neg fun e => he (hinj _ _ e).symm]
      simp

theorem foldl_pushC_canon (mk : β → Value) (hinj : ∀ a b, mk a = mk b → a = b) (l : List (Nat × β)) :
    ((l.foldl (fun c x => pushC c x.1 x.2) []).reverse.map fun x => (x.1, mk x.2)) =
      canon (l.map fun x => (x.1, mk x.2)) := by
  cases l with
  | nil => rfl
  | cons y rest =>
    simp only [List.foldl_cons, List.map_cons, canon]
    rw [show pushC [] y.1 y.2 = [(y.1, y.2)] from rfl, foldl_pushC_go mk hinj rest (y.1, y.2) []]
    simp

end Wellen.Spec
