import WellenModel.Model.VcdBody
/-!
`parse_body` (byte-level state machine) = token-level interpreter, for every byte string.

The machine state is read as (lexical state `absSt`, pending partial token `buf`, reversed), and `meaning m bs` is what the token-level
interpreter makes of the pending token followed by the remaining input `bs`. A byte consumed leaves the meaning as it is
(`meaning_cons`: state by state; the states differ only where white space completes the pending token), the end-of-input
handling computes it (`meaning_nil`).
-/
namespace Wellen.VcdBody

def buf (m : M) : List Nat := match m.st with | .idTok => m.id | _ => m.first

def absSt (m : M) : TSt := match m.st with
  | .idTok => .idTok m.first.reverse
  | .lookEnd => .lookEnd
  | _ => .first

/-- machine invariants that hold whenever the machine is not in its initial line skip: unused buffers are empty -/
def WF (m : M) : Prop :=
  m.st ≠ .skipNl ∧ (m.st ≠ .idTok → m.id = [])

/-- "the remaining input ends in white space"; `e`: nothing is pending in front of it -/
def trailingOf (e : Bool) (bs : List Nat) : Bool :=
  match bs.getLast? with | some x => isWs x | none => e

theorem trailingOf_cons (e : Bool) (b : Nat) (bs : List Nat) : trailingOf e (b :: bs) = trailingOf (isWs b) bs := by
  cases bs with
  | nil => rfl
  | cons y r => simp [trailingOf, List.getLast?_cons]

theorem splitWsAux_eq_nil {cur l : List Nat} (h : splitWsAux cur l = []) : cur = [] ∧ trailingOf true l = true := by
  induction l generalizing cur with
  | nil =>
    by_cases hc : cur = [] <;> simp [splitWsAux, hc] at h
    exact ⟨hc, rfl⟩
  | cons z t ih =>
    rw [splitWsAux] at h
    rw [trailingOf_cons]
    by_cases hz : isWs z = true
    · by_cases hc : cur = [] <;> simp [hz, hc] at h
      exact ⟨hc, hz ▸ (ih h).2⟩
    · simp only [hz, Bool.false_eq_true, ↓reduceIte] at h
      exact absurd (ih h).1 (by simp)

def meaning (m : M) (bs : List Nat) : Out :=
  interpT (trailingOf (buf m).isEmpty bs) (absSt m) (splitWsAux (buf m) bs) m.evs

theorem meaning_nil {m : M} (h : WF m) : meaning m [] = flush m := by
  cases hst : m.st <;> simp only [meaning, flush, hst, buf, absSt, splitWsAux, trailingOf, List.getLast?_nil]
  case skipNl => exact absurd hst h.1
  case first =>
    by_cases he : m.first = []
    · simp [he, interpT]
    · simp only [he, List.isEmpty_iff, ↓reduceIte, interpT]
      cases parseFirst m.first.reverse <;> simp [he]
  case idTok =>
    by_cases he : m.id = [] <;> simp [he, interpT]
  case lookEnd =>
    by_cases he : m.first = []
    · simp [he, interpT]
    · simp only [he, List.isEmpty_iff, ↓reduceIte, interpT]
      split <;> simp

theorem meaning_cons {m : M} (h : WF m) (b : Nat) (bs : List Nat) :
    match step none m b with
    | .cont m' => WF m' ∧ meaning m (b :: bs) = meaning m' bs
    | .exit _ => False
    | .error e => meaning m (b :: bs) = .err e := by
  obtain ⟨h1, h2⟩ := h
  unfold meaning
  rw [trailingOf_cons]
  cases hst : m.st with
  | skipNl => exact absurd hst h1
  | first =>
    have hid : m.id = [] := h2 (by simp [hst])
    by_cases hw : isWs b = true
    · by_cases he : m.first = []
      · simp [step, hst, hw, he, WF, buf, absSt, splitWsAux, hid]
      · simp only [step, hst, hw, he, List.isEmpty_iff, ↓reduceIte, buf, absSt, splitWsAux, interpT]
        cases hp : parseFirst m.first.reverse with
        | multiBit =>
          -- a vector value as the last token is dropped unless white space follows; here it does: `b`, and a rest without tokens
          by_cases hc : splitWsAux [] bs = []
          · simp [WF, hid, hc, (splitWsAux_eq_nil hc).2]
          · simp [WF, hid, hc]
        | _ => simp [WF, hid]
    · simp [step, hst, hw, WF, buf, absSt, splitWsAux, hid]
  | idTok =>
    by_cases hw : isWs b = true
    · by_cases he : m.id = [] <;> simp [step, hst, hw, he, WF, buf, absSt, splitWsAux, interpT]
    · simp [step, hst, hw, WF, buf, absSt, splitWsAux]
  | lookEnd =>
    have hid : m.id = [] := h2 (by simp [hst])
    by_cases hw : isWs b = true
    · by_cases he : m.first = []
      · simp [step, hst, hw, he, WF, buf, absSt, splitWsAux, hid]
      · by_cases hk : m.first.reverse = kwEnd <;> simp [step, hst, hw, he, hk, WF, buf, absSt, splitWsAux, interpT, hid]
    · simp [step, hst, hw, WF, buf, absSt, splitWsAux, hid]

theorem run_eq_interp {m : M} (hwf : WF m) (bs : List Nat) : run none m bs = meaning m bs := by
  induction bs generalizing m with
  | nil => exact (meaning_nil hwf).symm
  | cons b bs ih =>
    have h := meaning_cons hwf b bs
    rw [run]
    revert h
    cases step none m b with
    | cont m' => exact fun ⟨hwf', e⟩ => e ▸ ih hwf'
    | exit e => exact False.elim
    | error e => exact Eq.symm

/-- with nothing pending, `meaning` unfolds to the token interpreter on all tokens -/
theorem run_first (bs : List Nat) (p : Nat) :
    run none { st := .first, pos := p } bs = interpT (endsWs bs) .first (splitWs bs) [] :=
  run_eq_interp ⟨by simp, fun _ => rfl⟩ bs

theorem run_skipNl (bs : List Nat) (p : Nat) :
    run none { st := .skipNl, pos := p } bs = interpT (endsWs (dropLine bs)) .first (splitWs (dropLine bs)) [] := by
  induction bs generalizing p with
  | nil => rfl
  | cons b bs ih =>
    simp only [run, step, dropLine]
    by_cases hb : b = 10
    · simp only [hb, ↓reduceIte]
      exact run_first bs (p + 1)
    · simp only [hb, ↓reduceIte]
      exact ih (p + 1)

end Wellen.VcdBody
