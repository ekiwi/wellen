import WellenModel.Model.Hier
/-!
What the updates of the pointer-level `Builder` do to what its observers read, about the model of `HierarchyBuilder`
alone. The observers read a builder through its links (`getNext`, `childOf`) and through the declared data of its nodes
(`Keeps`); linking a node in leaves the declared data alone, pushing a node without links leaves the links alone.
The two searches of `add_scope` are read off the item iterator (`findDup_eq_find`, `findLast_eq_getLast?`).
-/
namespace Wellen.Hier

theorem proj_modify {α β : Type} [Inhabited α] (π : α → β) {a : Array α} {i k : Nat} {f : α → α}
    (hf : ∀ x, π (f x) = π x) : π ((a.modify i f).getD k default) = π (a.getD k default) := by
  simp only [Array.getD_eq_getD_getElem?, Array.getElem?_modify]
  split
  · cases a[k]? <;> simp [hf]
  · rfl

theorem getD_modify {α : Type} [Inhabited α] {a : Array α} {i : Nat} (hi : i < a.size) (f : α → α) (k : Nat) :
    (a.modify i f).getD k default = if k = i then f (a.getD i default) else a.getD k default := by
  simp only [Array.getD_eq_getD_getElem?, Array.getElem?_modify]
  by_cases e : i = k
  · subst e; simp [hi]
  · simp [e, Ne.symm e]

/-- beyond the size `getD` reads `default`: hence the second alternative -/
theorem proj_push {α β : Type} [Inhabited α] (π : α → β) {a : Array α} {v : α} {k : Nat}
    (h : k < a.size ∨ π v = π default) : π ((a.push v).getD k default) = π (a.getD k default) := by
  simp only [Array.getD_eq_getD_getElem?, Array.getElem?_push]
  split
  · next hk =>
    subst hk
    rcases h with h | h
    · exact absurd h (Nat.lt_irrefl _)
    · simp [h]
  · rfl

def ValidItem (b : Builder) : ItemId → Prop
  | .scope i => i < b.scopes.size
  | .var i => i < b.vars.size

/-- first child by the builder's scope number; `none` is the top level (`first_item`) -/
def childOf (b : Builder) : Option Nat → Option ItemId
  | none => b.firstItem
  | some k => (b.scopes.getD k default).child

structure Keeps (b b' : Builder) : Prop where
  scopes : ∀ k, k < b.scopes.size → k < b'.scopes.size ∧ (b'.scopes.getD k default).name = (b.scopes.getD k default).name ∧
    (b'.scopes.getD k default).parent = (b.scopes.getD k default).parent
  vars : ∀ k, k < b.vars.size → k < b'.vars.size ∧ (b'.vars.getD k default).name = (b.vars.getD k default).name ∧
    (b'.vars.getD k default).sig = (b.vars.getD k default).sig ∧
    (b'.vars.getD k default).parent = (b.vars.getD k default).parent

theorem Keeps.of_arrays {b b' : Builder} (hs : b'.scopes = b.scopes) (hv : b'.vars = b.vars) : Keeps b b' :=
  ⟨fun _ hk => by rw [hs]; exact ⟨hk, rfl, rfl⟩, fun _ hk => by rw [hv]; exact ⟨hk, rfl, rfl, rfl⟩⟩

theorem Keeps.trans {a b c : Builder} (h1 : Keeps a b) (h2 : Keeps b c) : Keeps a c where
  scopes k hk :=
    let ⟨g1, g2, g3⟩ := h1.scopes k hk; let ⟨f1, f2, f3⟩ := h2.scopes k g1; ⟨f1, f2.trans g2, f3.trans g3⟩
  vars k hk :=
    let ⟨g1, g2, g3, g4⟩ := h1.vars k hk; let ⟨f1, f2, f3, f4⟩ := h2.vars k g1
    ⟨f1, f2.trans g2, f3.trans g3, f4.trans g4⟩

theorem Keeps.modify_scopes {b : Builder} {i : Nat} {f : ScopeN → ScopeN} (hn : ∀ s, (f s).name = s.name)
    (hp : ∀ s, (f s).parent = s.parent) : Keeps b { b with scopes := b.scopes.modify i f } :=
  ⟨fun k hk => ⟨by rw [Array.size_modify]; exact hk, proj_modify ScopeN.name hn,
    proj_modify ScopeN.parent hp⟩, fun _ hk => ⟨hk, rfl, rfl, rfl⟩⟩

theorem Keeps.modify_vars {b : Builder} {i : Nat} {f : VarN → VarN} (hn : ∀ v, (f v).name = v.name)
    (hs : ∀ v, (f v).sig = v.sig) (hp : ∀ v, (f v).parent = v.parent) : Keeps b { b with vars := b.vars.modify i f } :=
  ⟨fun _ hk => ⟨hk, rfl, rfl⟩, fun k hk => ⟨by rw [Array.size_modify]; exact hk, proj_modify VarN.name hn,
    proj_modify VarN.sig hs, proj_modify VarN.parent hp⟩⟩

theorem getNext_invalid {b : Builder} {y : ItemId} (h : ¬ ValidItem b y) : getNext b y = none := by
  -- beyond the size `getD` reads the default node, which has no links
  cases y with
  | scope k => exact congrArg ScopeN.next (dif_neg h)
  | var k => exact congrArg VarN.next (dif_neg h)

theorem getNext_setNext {b : Builder} {h : ItemId} (hv : ValidItem b h) (t x : ItemId) :
    getNext (setNext b h t) x = if x = h then some t else getNext b x := by
  cases h <;> cases x <;>
    simp only [getNext, setNext, getD_modify hv, ItemId.scope.injEq, ItemId.var.injEq, reduceCtorEq, if_false]
  all_goals split <;> rfl

theorem childOf_setNext (b : Builder) (h t : ItemId) (q : Option Nat) : childOf (setNext b h t) q = childOf b q := by
  cases q with
  | none => cases h <;> rfl
  | some k =>
    cases h with
    | var i => rfl
    | scope i => exact proj_modify ScopeN.child (fun _ => rfl)

theorem keeps_setNext (b : Builder) (h t : ItemId) : Keeps b (setNext b h t) := by
  cases h with
  | scope i => exact .modify_scopes (fun _ => rfl) (fun _ => rfl)
  | var i => exact .modify_vars (fun _ => rfl) (fun _ => rfl) (fun _ => rfl)

/-- the update `add_to_hierarchy_tree` makes for the first child of a scope -/
def setChild (b : Builder) (p : Nat) (c : ItemId) : Builder :=
  { b with scopes := b.scopes.modify p (fun s => { s with child := some c }) }

theorem getNext_setChild (b : Builder) (p : Nat) (c x : ItemId) : getNext (setChild b p c) x = getNext b x := by
  cases x with
  | scope k => exact proj_modify ScopeN.next (fun _ => rfl)
  | var k => rfl

theorem childOf_setChild {b : Builder} {p : Nat} (hp : p < b.scopes.size) (c : ItemId) (q : Option Nat) :
    childOf (setChild b p c) q = if q = some p then some c else childOf b q := by
  cases q with
  | none => rfl
  | some k =>
    simp only [childOf, setChild, getD_modify hp, Option.some.injEq]
    split <;> rfl

theorem keeps_setChild (b : Builder) (p : Nat) (c : ItemId) : Keeps b (setChild b p c) :=
  .modify_scopes (fun _ => rfl) (fun _ => rfl)

/-- what linking `node` in as the next child of the builder scope `par` (whose last child so far is `last`) does -/
structure AddObs (b b' : Builder) (par : Option Nat) (last : Option ItemId) (node : ItemId) : Prop where
  next : ∀ y, getNext b' y = if some y = last then some node else getNext b y
  child : ∀ q, childOf b' q = if q = par then (childOf b q).or (some node) else childOf b q
  keeps : Keeps b b'

theorem AddObs.andThen {b b1 b2 : Builder} {par : Option Nat} {last : Option ItemId} {node : ItemId}
    (h : AddObs b b1 par last node) (hn : ∀ y, getNext b2 y = getNext b1 y) (hc : ∀ q, childOf b2 q = childOf b1 q)
    (hk : Keeps b1 b2) : AddObs b b2 par last node where
  next y := (hn y).trans (h.next y)
  child q := (hc q).trans (h.child q)
  keeps := h.keeps.trans hk

theorem AddObs.restack {b bl : Builder} {par : Option Nat} {last : Option ItemId} {node : ItemId}
    (h : AddObs b bl par last node) (st : List StackEntry) : AddObs b { bl with stack := st } par last node :=
  h.andThen (fun _ => rfl) (fun q => by cases q <;> rfl) (.of_arrays rfl rfl)

theorem AddObs.push_var {b b1 : Builder} {par : Option Nat} {last : Option ItemId} {node : ItemId}
    (h : AddObs b b1 par last node) (v : VarN) (hv : v.next = none) (hh : Array (Option Nat)) :
    AddObs b { b1 with handleToNode := hh, vars := b1.vars.push v } par last node := by
  refine h.andThen (fun y => ?_) (fun q => by cases q <;> rfl) ⟨fun _ hk => ⟨hk, rfl, rfl⟩, fun k hk => ?_⟩
  · cases y with
    | scope _ => rfl
    | var _ => exact proj_push VarN.next (.inr hv)
  · exact ⟨by simp; omega, proj_push VarN.name (.inl hk), proj_push VarN.sig (.inl hk),
      proj_push VarN.parent (.inl hk)⟩

theorem AddObs.push_scope {b b1 : Builder} {par : Option Nat} {last : Option ItemId} {node : ItemId}
    (h : AddObs b b1 par last node) (sc : ScopeN) (hn : sc.next = none) (hc : sc.child = none) (st : List StackEntry) :
    AddObs b { b1 with stack := st, scopes := b1.scopes.push sc } par last node := by
  refine h.andThen (fun y => ?_) (fun q => ?_) ⟨fun k hk => ?_, fun _ hk => ⟨hk, rfl, rfl, rfl⟩⟩
  · cases y with
    | scope _ => exact proj_push ScopeN.next (.inr hn)
    | var _ => rfl
  · cases q with
    | none => rfl
    | some _ => exact proj_push ScopeN.child (.inr hc)
  · exact ⟨by simp; omega, proj_push ScopeN.name (.inl hk), proj_push ScopeN.parent (.inl hk)⟩

/-- `add_to_hierarchy_tree`, including the first-item update that precedes it in `add_scope` / `add_var`. The node is
linked behind the cached last child of the entry `find_parent_scope` returns, or becomes the first child of its scope,
or the first item of the hierarchy. The code decides by the cache alone: `hchild` (the cache is empty exactly when the
scope has no first child) and `hne` (once a scope is open there is a first item) make that the right decision. -/
theorem addToTree_obs {b : Builder} (node : ItemId) {pos : Nat} {e : StackEntry}
    (hfp : findParent b.stack = some (pos, e))
    (hlast : ∀ h, e.lastChild = some h → ValidItem b h)
    (hpar : ∀ k, e.scopeId = some k → k < b.scopes.size)
    (hchild : e.lastChild = none ↔ childOf b e.scopeId = none)
    (hne : e.scopeId ≠ none → b.firstItem ≠ none) :
    ∃ b1, addToTree (if b.firstItem.isNone then { b with firstItem := some node } else b) node = some (b1, e.scopeId) ∧
      b1.stack = b.stack.modify pos (fun e => { e with lastChild := some node }) ∧
      b1.vars.size = b.vars.size ∧ b1.scopes.size = b.scopes.size ∧
      AddObs b b1 e.scopeId e.lastChild node := by
  have hst : (if b.firstItem.isNone then { b with firstItem := some node } else b).stack = b.stack := by split <;> rfl
  simp only [addToTree, hst, hfp]
  -- the first item is set for the very first node only
  have hfi : (e.scopeId = none → childOf b none ≠ none) → b.firstItem.isNone = false := fun h => by
    cases hf : b.firstItem with
    | some _ => rfl
    | none =>
      cases hs : e.scopeId with
      | none => exact absurd hf (h hs)
      | some k => exact absurd hf (hne (by simp [hs]))
  cases hl : e.lastChild with
  | some holder =>
    have hc : childOf b e.scopeId ≠ none := fun h => by simp [hchild.mpr h] at hl
    simp only [hfi fun hs => hs ▸ hc]
    refine ⟨_, rfl, by cases holder <;> rfl, by cases holder <;> simp [setNext], by cases holder <;> simp [setNext], ?_⟩
    refine AddObs.restack ⟨fun y => ?_, fun q => ?_, keeps_setNext ..⟩ _
    · rw [getNext_setNext (hlast _ hl)]; simp [eq_comm]
    · rw [childOf_setNext]
      split
      · next h => rw [h]; cases hk : childOf b e.scopeId <;> first | exact absurd hk hc | rfl
      · rfl
  | none =>
    have hc := hchild.mp hl
    cases hs : e.scopeId with
    | some k =>
      simp only [hfi fun h => by simp [hs] at h]
      refine ⟨_, rfl, rfl, rfl, by simp, ?_⟩
      refine AddObs.restack (bl := setChild b k node) ⟨fun y => ?_, fun q => ?_, keeps_setChild ..⟩ _
      · simp [getNext_setChild]
      · rw [childOf_setChild (hpar k hs)]
        split
        · next h => rw [h, ← hs, hc]; rfl
        · rfl
    | none =>
      rw [hs] at hc
      simp only [show b.firstItem = none from hc]
      refine ⟨_, rfl, rfl, rfl, rfl, ?_⟩
      refine AddObs.restack (b := b) (bl := { b with firstItem := some node }) ⟨fun y => ?_, fun q => ?_, .of_arrays rfl rfl⟩ _
      · simp; rfl
      · cases q <;> simp [childOf, show b.firstItem = none from hc]

theorem findDup_eq_find (b : Builder) (name : String) : ∀ (fuel : Nat) (s : Option ItemId),
    findDup b name fuel s = (scopesIn (iterItems b fuel s)).find? (fun k => (b.scopes.getD k default).name = name)
  | 0, _ => rfl
  | _ + 1, none => rfl
  | fuel + 1, some (.var _) => findDup_eq_find b name fuel _
  | fuel + 1, some (.scope k) => by
    have ih := findDup_eq_find b name fuel (getNext b (.scope k))
    simp only [findDup, iterItems, scopesIn, List.filterMap_cons, List.find?_cons]
    by_cases hn : (b.scopes.getD k default).name = name
    · simp only [hn, if_true, decide_true]
    · simp only [hn, if_false, decide_false]; exact ih

theorem findLast_eq_getLast? (b : Builder) : ∀ (fuel : Nat) (c : Option ItemId),
    c.map (findLast b fuel) = (iterItems b (fuel + 1) c).getLast?
  | _, none => rfl
  | 0, some _ => rfl
  | fuel + 1, some c => by
    have ih := findLast_eq_getLast? b fuel (getNext b c)
    simp only [Option.map_some, findLast, iterItems]
    cases hn : getNext b c with
    | none => cases fuel <;> rfl
    | some n => rw [hn] at ih; simpa only [Option.map_some, iterItems, List.getLast?_cons_cons] using ih

/-- `add_scope` once `find_parent_scope` has answered. The search starts at `childOf b e.scopeId`; in `step` that is a
`match` of its own (`step.match_1`), and a `match` with the same text in another declaration is a different constant
that no rewrite unifies with it: hence this equation, proved by cases. -/
theorem step_scope {b : Builder} (name : String) (fl : Bool) {pos : Nat} {e : StackEntry}
    (h : findParent b.stack = some (pos, e)) :
    step b (.scope name fl) =
      match findDup b name (nodeCount b + 1) (childOf b e.scopeId) with
      | some dup =>
        let last := ((b.scopes.getD dup default).child).map (findLast b (nodeCount b + 1))
        some { b with stack := { scopeId := some dup, lastChild := last } :: b.stack }
      | none =>
        if fl then some { b with stack := { scopeId := none, flattened := true } :: b.stack }
        else (addToTree (if b.firstItem.isNone then { b with firstItem := some (.scope b.scopes.size) } else b)
            (.scope b.scopes.size)).map fun (b1, parent) =>
          { b1 with stack := { scopeId := some b.scopes.size } :: b1.stack,
                    scopes := b1.scopes.push { name := name, parent := parent } } := by
  simp only [step, h]
  cases e.scopeId <;> simp only [childOf] <;> cases findDup b name (nodeCount b + 1) _ <;> cases fl <;> try rfl
  all_goals simp only [Bool.false_eq_true, if_false]; cases addToTree _ _ <;> rfl

end Wellen.Hier
