import WellenModel.Model.Store
import WellenModel.Proofs.Pack
/-! The in-memory entry of one vector change. LEB128 round trip; what `get_value_at` decodes from the shapes an entry can have (meta
bits in a first byte of their own, in front of the data or of padding, or sharing the first data byte); lengths and meta bytes of the
kinds compared (`getLenAndMeta` is monotone in the kind); the layout in closed form (`putMeta`, `alignEntry_eq`); and the alignment /
decode round trip for every (widest, local) kind and every width (`entry_roundtrip`, `entry_injective`; a one-bit signal of the wavemem
store has its own compact entry, `oneBitEntry`, the FST writer uses this layout at width 1 too). -/
namespace Wellen.Store
open Wellen.Bits

theorem lebRead_lebWrite (n : Nat) (rest : List Nat) : lebRead (lebWrite n ++ rest) = some (n, rest) := by
  induction n using Nat.strongRecOn with
  | _ n ih =>
    unfold lebWrite
    by_cases h : n < 128
    · simp [h, lebRead]
    · simp only [h, ↓reduceDIte, List.cons_append, lebRead]
      have h1 : ¬ (n % 128 + 128 < 128) := by omega
      simp only [h1, ↓reduceIte]
      rw [ih (n / 128) (by omega)]
      simp only [Option.some.injEq, Prod.mk.injEq, and_true]
      omega

theorem lebWrite_ne_nil (n : Nat) : lebWrite n ≠ [] := by
  unfold lebWrite; split <;> simp

theorem writeNState_length (s : States) (vals : List Nat) :
    (writeNState s vals none).length = divCeil vals.length s.bib :=
  writeAux_length s vals 0

theorem writeNState_ne_nil (s : States) {vals : List Nat} (h : vals ≠ []) : writeNState s vals none ≠ [] := by
  intro e
  have h1 := divCeil_window vals.length s.bib (bib_pos s)
  rw [← writeNState_length, e, List.length_nil, Nat.zero_mul] at h1
  exact h (List.eq_nil_of_length_eq_zero (by omega))

theorem unpack_ignores_meta (s : States) (k b0 d : Nat) (h : b0 * s.bits ≤ 6) :
    unpackByte s b0 ((k <<< 6) ||| d) = unpackByte s b0 d := by
  unfold unpackByte
  apply List.map_congr_left
  intro ii hii
  have hlt : ii < b0 := by simpa using hii
  have := Nat.mul_le_mul_right s.bits hlt
  rw [Nat.succ_mul] at this
  exact field_below d k _ _ 6 (by omega)

theorem meta_split (k h : Nat) (hk : k < 4) (hh : h < 64) :
    (((k <<< 6) ||| h) >>> 6) &&& 3 = k ∧ ((k <<< 6) ||| h) &&& 192 = k <<< 6 ∧ ((k <<< 6) ||| h) &&& 63 = h := by
  obtain ⟨h1, h2⟩ := shl_or_split k h 6 hh
  have hk' : k &&& 3 = k := Nat.and_two_pow_sub_one_of_lt_two_pow (n := 2) hk
  exact ⟨by rw [h1, hk'], by rw [show 192 = 3 <<< 6 from rfl, and_shiftLeft, h1, hk'], h2⟩

theorem ofNat_toNat (s : States) : States.ofNat? s.toNat = some s := by cases s <;> rfl
theorem toNat_lt (s : States) : s.toNat < 4 := by cases s <;> decide

/-- under a widest kind other than `two`, `get_value_at` reads the value's kind off the top two bits of the first byte and keeps
the last `divCeil bits loc.bib` bytes of the entry, or of what follows its first byte when that is a meta byte of its own (`own`) -/
theorem decodeEntry_cons {maxS loc : States} {b : Nat} (bits : Nat) (own : Bool) (r : List Nat) (hmax : maxS ≠ .two)
    (hb : (b >>> 6) &&& 3 = loc.toNat) :
    decodeEntry maxS bits own (b :: r) =
      some (loc, (if own then r else b :: r).drop ((if own then r else b :: r).length - divCeil bits loc.bib)) := by
  unfold decodeEntry
  cases maxS with
  | two => exact absurd rfl hmax
  | four | nine => simp only [List.headD_cons, hb, ofNat_toNat, List.drop_succ_cons, List.drop_zero]

/-- the meta bits in a first byte of their own, zeros and the data behind it: whether that byte counts as the meta byte
(`own`) or as the first byte of the region, the decoder finds the kind and cuts the data off the end -/
theorem decode_meta_front {maxS loc : States} {bits k : Nat} {data : List Nat} (own : Bool)
    (hmax : maxS ≠ .two) (hl : data.length = divCeil bits loc.bib) :
    decodeEntry maxS bits own ((loc.toNat <<< 6) :: (zeros k ++ data)) = some (loc, data) := by
  have key : ∀ pre : List Nat, (pre ++ data).drop ((pre ++ data).length - divCeil bits loc.bib) = data := fun pre => by
    rw [List.length_append, hl, Nat.add_sub_cancel, List.drop_left' rfl]
  rw [decodeEntry_cons bits own _ hmax (by simpa using (meta_split loc.toNat 0 (toNat_lt loc) (by decide)).1)]
  cases own
  · exact congrArg (fun d => some (loc, d)) (key (_ :: zeros k))
  · exact congrArg (fun d => some (loc, d)) (key (zeros k))

theorem decode_meta_shared {maxS loc : States} {bits : Nat} (h : Nat) (t : List Nat)
    (hmax : maxS ≠ .two) (hl : t.length + 1 = divCeil bits loc.bib) (hh : h < 64) :
    decodeEntry maxS bits false (((loc.toNat <<< 6) ||| h) :: t) =
      some (loc, ((loc.toNat <<< 6) ||| h) :: t) := by
  rw [decodeEntry_cons bits false t hmax (meta_split loc.toNat h (toNat_lt loc) hh).1]
  simp [hl]

theorem getLenAndMeta_two (b : Nat) : getLenAndMeta .two b = ((b+7)/8, false) := rfl

theorem bne_two (s : States) : (s != States.two) = true ↔ s ≠ .two := by cases s <;> decide

theorem eq_two_of_le {a : States} (h : a.toNat ≤ States.two.toNat) : a = .two := by
  cases a <;> simp [States.toNat] at h ⊢

theorem getLenAndMeta_meta (s : States) (b : Nat) : (getLenAndMeta s b).2 = true ↔ s ≠ .two ∧ b % s.bib = 0 := by
  simp [getLenAndMeta, bne_two]

theorem bib_dvd (loc maxS : States) (h : loc.toNat ≤ maxS.toNat) : maxS.bib ∣ loc.bib := by
  cases loc <;> cases maxS <;> first | exact absurd h (by decide) | decide

theorem bits_mono (loc maxS : States) (h : loc.toNat ≤ maxS.toNat) : loc.bits ≤ maxS.bits := by
  cases loc <;> cases maxS <;> first | exact absurd h (by decide) | decide

theorem getLenAndMeta_len_mono {a b : States} (bits : Nat) (h : a.toNat ≤ b.toNat) :
    (getLenAndMeta a bits).1 ≤ (getLenAndMeta b bits).1 :=
  divCeil_anti bits _ _ (bib_pos b) (Nat.le_of_dvd (bib_pos a) (bib_dvd a b h))

theorem getLenAndMeta_meta_mono {a b : States} (bits : Nat) (h : a.toNat ≤ b.toNat)
    (ha : (getLenAndMeta a bits).2 = true) : (getLenAndMeta b bits).2 = true := by
  obtain ⟨h1, h2⟩ := (getLenAndMeta_meta a bits).mp ha
  refine (getLenAndMeta_meta b bits).mpr ⟨fun e => h1 ?_, Nat.mod_eq_zero_of_dvd (Nat.dvd_trans (bib_dvd a b h) (Nat.dvd_of_mod_eq_zero h2))⟩
  exact eq_two_of_le (e ▸ h)

theorem getLenAndMeta_meta_false {a b : States} (bits : Nat) (h : a.toNat ≤ b.toNat)
    (hb : (getLenAndMeta b bits).2 = false) : (getLenAndMeta a bits).2 = false := by
  cases hc : (getLenAndMeta a bits).2
  · rfl
  · rw [getLenAndMeta_meta_mono bits h hc] at hb; exact hb

/-- **when value and signal share one layout without a meta byte, the top two bits of the first byte are free**: the signal's
kind leaves at least one of its slots (≥ 2 bits) unused, and the value's packing is no longer -/
theorem shared_top_free {maxS loc : States} {bits : Nat} (hle : loc.toNat ≤ maxS.toNat) (hmax : maxS ≠ .two)
    (hs1 : (getLenAndMeta loc bits).1 = (getLenAndMeta maxS bits).1) (hm : (getLenAndMeta maxS bits).2 = false) :
    bits % loc.bib > 0 ∧ bits % loc.bib * loc.bits ≤ 6 := by
  have hmod : ¬ bits % maxS.bib = 0 := fun h => absurd ((getLenAndMeta_meta maxS bits).mpr ⟨hmax, h⟩) (by simp [hm])
  have hpos : bits % loc.bib > 0 := Nat.pos_of_ne_zero fun h =>
    hmod (Nat.mod_eq_zero_of_dvd (Nat.dvd_trans (bib_dvd loc maxS hle) (Nat.dvd_of_mod_eq_zero h)))
  have hpm : 0 < pad maxS.bib bits := Nat.pos_of_ne_zero fun h => hmod ((pad_eq_zero bits _ (bib_pos maxS)).mp h)
  have h2 : 2 ≤ maxS.bits := by cases maxS <;> first | exact absurd rfl hmax | decide
  -- count bits: 8·len = (pad + bits)·(bits per symbol), for both kinds
  have f : ∀ s : States, divCeil bits s.bib * 8 = pad s.bib bits * s.bits + bits * s.bits := fun s => by
    rw [← Nat.add_mul, ← divCeil_mul bits s.bib (bib_pos s), Nat.mul_assoc, Nat.mul_comm s.bib, bits_mul_bib]
  have f1 := f loc
  have f2 := f maxS
  rw [show divCeil bits loc.bib = divCeil bits maxS.bib from hs1] at f1
  have g1 : bits * loc.bits ≤ bits * maxS.bits := Nat.mul_le_mul_left _ (bits_mono loc maxS hle)
  have g2 : 1 * maxS.bits ≤ pad maxS.bib bits * maxS.bits := Nat.mul_le_mul_right _ hpm
  have hp := pad_add_mod (bib_pos loc) hpos
  have g3 : (pad loc.bib bits + bits % loc.bib) * loc.bits = 8 := by rw [hp, Nat.mul_comm, bits_mul_bib]
  rw [Nat.add_mul] at g3
  exact ⟨hpos, by omega⟩

/-- where the widest kind puts the meta bits on top of the first data byte of a value, that byte leaves them free -/
theorem merged_head_lt {maxS loc : States} {bits : Nat} {nums : List Nat} (hlen : nums.length = bits)
    (hv : ∀ v ∈ nums, v < 2 ^ loc.bits) (hle : loc.toNat ≤ maxS.toNat) (hmax : maxS ≠ .two)
    (hs : (getLenAndMeta loc bits).1 = (getLenAndMeta maxS bits).1) (hm : (getLenAndMeta maxS bits).2 = false) :
    (writeNState loc nums none).headD 0 < 64 := by
  obtain ⟨hb0, h6⟩ := shared_top_free hle hmax hs hm
  have := writeNState_head_lt loc nums hv (hlen ▸ hb0)
  rw [hlen, Nat.mul_comm] at this
  exact Nat.lt_of_lt_of_le this (Nat.pow_le_pow_right (by decide) h6)

theorem zeros_pos {n : Nat} (h : 0 < n) : zeros n = 0 :: zeros (n - 1) := by
  cases n with
  | zero => cases h
  | succ k => rfl

/-- An entry is the data right-aligned in the `len` bytes of the signal's widest kind (the `region`), with the meta bits in a
byte of their own in front of it (`own`) or else OR-ed onto its first byte. -/
def putMeta (own : Bool) (md : Nat) (region : List Nat) : List Nat :=
  if own then md :: region else (md ||| region.headD 0) :: region.drop 1

theorem alignEntry_eq {maxS loc : States} (bits : Nat) (data : List Nat) (hle : loc.toNat ≤ maxS.toNat) :
    alignEntry maxS loc bits data = putMeta (getLenAndMeta maxS bits).2 (loc.toNat <<< 6)
      (zeros ((getLenAndMeta maxS bits).1 - (getLenAndMeta loc bits).1) ++ data) := by
  have hl := getLenAndMeta_len_mono bits hle
  unfold alignEntry putMeta
  simp only []
  cases hq : (getLenAndMeta maxS bits).2
  · simp only [getLenAndMeta_meta_false bits hle hq, and_true, Bool.false_eq_true, if_false]
    split
    · rename_i h; simp [h, zeros]
    · rw [zeros_pos (n := (getLenAndMeta maxS bits).1 - (getLenAndMeta loc bits).1) (by omega)]; simp
  · simp only [if_true]
    split
    · rename_i h; simp [h.1, zeros]
    · rfl

theorem toSyms_ignores_meta (loc : States) (k h : Nat) (t : List Nat) (bits : Nat)
    (hb0 : bits % loc.bib > 0) (h6 : (bits % loc.bib) * loc.bits ≤ 6) :
    toSyms loc (((k <<< 6) ||| h) :: t) bits = toSyms loc (h :: t) bits := by
  simp only [toSyms_eq, hb0, ↓reduceIte, List.headD_cons, List.drop_succ_cons, unpack_ignores_meta loc k _ h h6]

theorem entry_roundtrip (maxS loc : States) (syms : List Nat)
    (hne : syms ≠ []) (hv : ∀ v ∈ syms, v < 2 ^ loc.bits) (hle : loc.toNat ≤ maxS.toNat) :
    ∃ d, decodeEntry maxS syms.length (getLenAndMeta maxS syms.length).2
           (alignEntry maxS loc syms.length (writeNState loc syms none)) = some (loc, d) ∧
         toSyms loc d syms.length = syms := by
  have hl := writeNState_length loc syms
  have hpu := pack_unpack loc syms hv
  obtain ⟨h0, t, ht⟩ := List.exists_cons_of_ne_nil (writeNState_ne_nil loc hne)
  by_cases hmax : maxS = .two
  · -- all values are two-state: no meta data at all
    subst hmax
    cases eq_two_of_le hle
    refine ⟨writeNState .two syms none, ?_, hpu⟩
    simp [alignEntry, getLenAndMeta_two, decodeEntry, ht, States.toNat]
  · rw [alignEntry_eq _ _ hle, putMeta]
    cases hm : (getLenAndMeta maxS syms.length).2 with
    | true => exact ⟨_, decode_meta_front true hmax hl, hpu⟩
    | false =>
      simp only [Bool.false_eq_true, ↓reduceIte]
      by_cases hk : (getLenAndMeta maxS syms.length).1 - (getLenAndMeta loc syms.length).1 = 0
      · -- same length: the meta bits go on top of the first data byte, whose top two bits are free
        have hs : (getLenAndMeta loc syms.length).1 = (getLenAndMeta maxS syms.length).1 :=
          Nat.le_antisymm (getLenAndMeta_len_mono syms.length hle) (Nat.le_of_sub_eq_zero hk)
        obtain ⟨hb0, h6⟩ := shared_top_free hle hmax hs hm
        have hh := merged_head_lt rfl hv hle hmax hs hm
        rw [ht] at hh hl hpu
        rw [hk, ht]
        refine ⟨_, decode_meta_shared h0 t hmax (by simpa using hl) hh, ?_⟩
        rw [toSyms_ignores_meta loc loc.toNat h0 t syms.length hb0 h6, hpu]
      · rw [zeros_pos (Nat.pos_of_ne_zero hk), List.cons_append, List.headD_cons, Nat.or_zero, List.drop_succ_cons, List.drop_zero]
        exact ⟨_, decode_meta_front false hmax hl, hpu⟩

theorem entry_injective {maxS l1 l2 : States} {s1 s2 : List Nat}
    (hlen : s1.length = s2.length) (hne : s1 ≠ [])
    (hv1 : ∀ v ∈ s1, v < 2 ^ l1.bits) (hv2 : ∀ v ∈ s2, v < 2 ^ l2.bits)
    (hle1 : l1.toNat ≤ maxS.toNat) (hle2 : l2.toNat ≤ maxS.toNat)
    (he : alignEntry maxS l1 s1.length (writeNState l1 s1 none) =
          alignEntry maxS l2 s2.length (writeNState l2 s2 none)) : l1 = l2 ∧ s1 = s2 := by
  obtain ⟨d1, hd1, ht1⟩ := entry_roundtrip maxS l1 s1 hne hv1 hle1
  obtain ⟨d2, hd2, ht2⟩ := entry_roundtrip maxS l2 s2 (fun h => hne (List.eq_nil_of_length_eq_zero (by rw [hlen, h]; rfl))) hv2 hle2
  rw [he, hlen] at hd1
  cases hd1.symm.trans hd2
  exact ⟨rfl, by rw [← ht1, ← ht2, hlen]⟩

end Wellen.Store
