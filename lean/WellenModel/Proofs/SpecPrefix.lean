import WellenModel.Proofs.SpecStep
/-!
The abstract waveform only grows along a history: every operation appends to the time table and
to the per-signal change lists, and what it appends carries a time index at or after the last
index of the state before and inside the new table. Consequence (`fold_common`): two histories with a common prefix denote
waveforms that agree on everything strictly before the last time step of the common part.
-/
namespace Wellen.Spec
open Wellen.Store

structure Ext (s s' : St) : Prop where
  tt : s.ttRev <:+ s'.ttRev
  len : s.ttLen ≤ s'.ttLen
  size : s'.changesRev.size = s.changesRev.size
  wf : s'.ttLen = s'.ttRev.length
  ch : ∀ i, ∃ new, s'.changesRev.getD i [] = new ++ s.changesRev.getD i [] ∧ ∀ p ∈ new, s.ttLen - 1 ≤ p.1 ∧ p.1 < s'.ttLen

theorem Ext.refl (s : St) (hw : s.ttLen = s.ttRev.length) : Ext s s :=
  ⟨List.suffix_refl _, Nat.le_refl _, rfl, hw, fun _ => ⟨[], by simp, by simp⟩⟩

theorem Ext.trans {a b c : St} (h1 : Ext a b) (h2 : Ext b c) : Ext a c where
  tt := List.IsSuffix.trans h1.tt h2.tt
  len := Nat.le_trans h1.len h2.len
  size := by rw [h2.size, h1.size]
  wf := h2.wf
  ch := fun i => by
    obtain ⟨n1, e1, b1⟩ := h1.ch i
    obtain ⟨n2, e2, b2⟩ := h2.ch i
    refine ⟨n2 ++ n1, by rw [e2, e1, List.append_assoc], ?_⟩
    intro p hp
    rcases List.mem_append.mp hp with hp | hp
    · exact ⟨Nat.le_trans (Nat.sub_le_sub_right h1.len 1) (b2 p hp).1, (b2 p hp).2⟩
    · exact ⟨(b1 p hp).1, Nat.lt_of_lt_of_le (b1 p hp).2 h2.len⟩

theorem step_ext {types : Array SigType} {s s' : St} {op : Op} (hw : s.ttLen = s.ttRev.length) (h : Step types s op s') : Ext s s' := by
  have r := Ext.refl s hw
  cases h with
  | first t h => exact ⟨h ▸ List.nil_suffix, by rw [hw, h]; exact Nat.zero_le 1, rfl, rfl, fun i => ⟨[], rfl, nofun⟩⟩
  | newMax t h hlt => exact ⟨List.suffix_cons _ _, Nat.le_succ _, rfl, congrArg (· + 1) hw, fun i => ⟨[], rfl, nofun⟩⟩
  | noMax | splitEmpty | split | skip => exact ⟨r.tt, r.len, r.size, r.wf, r.ch⟩
  | @write _ j v hj _ _ hne _ =>
    refine ⟨r.tt, r.len, Array.size_set hj, hw, fun i => ?_⟩
    -- the guard of `step` (something has been recorded) puts the new index inside the table
    have hpos : 0 < s.ttLen := by rw [hw]; exact List.length_pos_iff.mpr hne
    by_cases hi : i = j
    · subst hi
      exact ⟨[(s.ttLen - 1, v)], by rw [getD_set, if_pos rfl, Array.getElem_eq_getD []]; rfl,
        fun p hp => by cases List.mem_singleton.mp hp; exact ⟨Nat.le_refl _, Nat.sub_one_lt (Nat.ne_of_gt hpos)⟩⟩
    · exact ⟨[], by rw [getD_set, if_neg (Ne.symm hi)]; rfl, nofun⟩

theorem fold_ext {types : Array SigType} {ops : List Op} {s s' : St} (hw : s.ttLen = s.ttRev.length)
    (h : foldSpec types ops s = some s') : Ext s s' :=
  foldSpec_induct (fun _ a => Ext s a) (fun h0 hs => h0.trans (step_ext h0.wf hs)) [] (.refl s hw) h

theorem run_sig {tps : List SigType} {ops : List Op} {s : St} (hs : foldSpec tps.toArray ops (specInit tps) = some s)
    {i : Nat} {tpe : SigType} (hti : tps[i]? = some tpe) :
    (s.changesRev.toList.map (fun l => canon l.reverse))[i]? = some (canon (s.changesRev.getD i []).reverse) := by
  have hi := (List.getElem?_eq_some_iff.mp hti).1
  have hsize : s.changesRev.size = tps.length := by rw [(fold_ext (s := specInit tps) rfl hs).size]; simp [specInit]
  simp [Array.getD_eq_getD_getElem?, hsize, hi]

theorem Ext.filter_eq {s s' : St} (h : Ext s s') (i : Nat) :
    (s'.changesRev.getD i []).filter (fun p => p.1 < s.ttLen - 1) = (s.changesRev.getD i []).filter (fun p => p.1 < s.ttLen - 1) := by
  obtain ⟨new, e, b⟩ := h.ch i
  rw [e, List.filter_append, List.filter_eq_nil_iff.mpr fun p hp => by simpa using (b p hp).1, List.nil_append]

theorem fold_common {types : Array SigType} {c r1 r2 : List Op} {s0 s1 s2 : St} (hw : s0.ttLen = s0.ttRev.length)
    (h1 : foldSpec types (c ++ r1) s0 = some s1) (h2 : foldSpec types (c ++ r2) s0 = some s2) :
    ∃ sc, foldSpec types c s0 = some sc ∧ Ext sc s1 ∧ Ext sc s2 := by
  rw [foldSpec_append, Option.bind_eq_some_iff] at h1
  obtain ⟨sc, hc, h1⟩ := h1
  rw [foldSpec_append, hc] at h2
  have ec := fold_ext hw hc
  exact ⟨sc, hc, fold_ext ec.wf h1, fold_ext ec.wf h2⟩

end Wellen.Spec
