import WellenModel.Model.Bits
/-!
Packing. `write_n_state` is characterised at the level of symbol lists: read slot by slot (`unpackAll`), the bytes it
produces are the symbols, right-aligned behind `pad` zero slots (`unpackAll_writeNState`); `n_state_to_bit_string` reads all
slots and drops the padding (`toSyms_eq_drop`). Round trip, lengths and the bound on the first byte follow.
-/
namespace Wellen.Bits

theorem divCeil_window (n b : Nat) (hb : 0 < b) : n ≤ divCeil n b * b ∧ divCeil n b * b < n + b := by
  have h1 := Nat.div_add_mod (n + b - 1) b
  have h2 := Nat.mod_lt (n + b - 1) hb
  rw [Nat.mul_comm] at h1
  unfold divCeil
  omega

theorem le_of_mul_lt {b x y : Nat} (h : x * b < y * b + b) : x ≤ y :=
  Nat.le_of_lt_succ (Nat.lt_of_mul_lt_mul_right (by rwa [Nat.succ_mul]))

theorem divCeil_eq (n b k : Nat) (h1 : n ≤ k * b) (h2 : k * b < n + b) : divCeil n b = k := by
  have := divCeil_window n b (by omega)
  exact Nat.le_antisymm (le_of_mul_lt (b := b) (by omega)) (le_of_mul_lt (b := b) (by omega))

theorem div_lt_divCeil {x bits b : Nat} (hb : 0 < b) (hx : x < bits) : x / b < divCeil bits b :=
  Nat.div_lt_of_lt_mul (Nat.lt_of_lt_of_le hx (Nat.mul_comm _ _ ▸ (divCeil_window bits b hb).1))

theorem divCeil_anti (n a b : Nat) (hb : 0 < b) (hab : b ≤ a) : divCeil n a ≤ divCeil n b := by
  have h1 := divCeil_window n a (by omega)
  have h2 := divCeil_window n b hb
  have h3 : divCeil n b * b ≤ divCeil n b * a := Nat.mul_le_mul_left _ hab
  exact le_of_mul_lt (b := a) (by omega)

/-- the unused symbol slots in front of `n` symbols packed `b` to the byte -/
def pad (b n : Nat) : Nat := divCeil n b * b - n

theorem divCeil_mul (n b : Nat) (hb : 0 < b) : divCeil n b * b = pad b n + n := by
  have := divCeil_window n b hb; unfold pad; omega

theorem pad_lt (n b : Nat) (hb : 0 < b) : pad b n < b := by
  have := divCeil_window n b hb; unfold pad; omega

theorem pad_flush {n b : Nat} (hb : 0 < b) (h : n % b = 0) : pad b n = 0 ∧ pad b (n + 1) + 1 = b := by
  have hn : n / b * b = n := Nat.div_mul_cancel (Nat.dvd_of_mod_eq_zero h)
  unfold pad
  rw [divCeil_eq n b (n / b) (by omega) (by omega),
    divCeil_eq (n + 1) b (n / b + 1) (by rw [Nat.succ_mul]; omega) (by rw [Nat.succ_mul]; omega), Nat.succ_mul]
  omega

theorem pad_carry {n b : Nat} (hb : 0 < b) (h : ¬ n % b = 0) : pad b n = pad b (n + 1) + 1 := by
  have hw := divCeil_window n b hb
  have hne : divCeil n b * b ≠ n := fun e => h (by rw [← e]; exact Nat.mul_mod_left _ _)
  unfold pad
  rw [divCeil_eq (n + 1) b (divCeil n b) (by omega) (by omega)]
  omega

theorem pad_eq_zero (n b : Nat) (hb : 0 < b) : pad b n = 0 ↔ n % b = 0 := by
  constructor
  · intro h
    have := divCeil_mul n b hb
    rw [h, Nat.zero_add] at this
    rw [← this]; exact Nat.mul_mod_left _ _
  · exact fun h => (pad_flush hb h).1

theorem pad_add_mod {n b : Nat} (hb : 0 < b) (h : 0 < n % b) : pad b n + n % b = b := by
  have h1 := Nat.div_add_mod n b
  have h2 := Nat.mod_lt n hb
  rw [Nat.mul_comm] at h1
  unfold pad
  rw [divCeil_eq n b (n / b + 1) (by rw [Nat.succ_mul]; omega) (by rw [Nat.succ_mul]; omega), Nat.succ_mul]
  omega

theorem divCeil_succ (n b : Nat) (hb : 0 < b) :
    divCeil (n + 1) b = if n % b = 0 then divCeil n b + 1 else divCeil n b := by
  have h1 := divCeil_mul n b hb
  have h2 := divCeil_mul (n + 1) b hb
  split
  · rename_i h
    obtain ⟨e1, e2⟩ := pad_flush hb h
    exact Nat.eq_of_mul_eq_mul_right hb (by rw [Nat.succ_mul]; omega)
  · rename_i h
    have := pad_carry hb h
    exact Nat.eq_of_mul_eq_mul_right hb (by omega)

theorem shiftRight_mod_of_mod (n m a b : Nat) (h : a + b ≤ m) : ((n % 2 ^ m) >>> a) % 2 ^ b = (n >>> a) % 2 ^ b := by
  apply Nat.eq_of_testBit_eq
  intro i
  simp only [Nat.testBit_mod_two_pow, Nat.testBit_shiftRight]
  by_cases hi : i < b
  · have : a + i < m := by omega
    simp [hi, this]
  · simp [hi]

theorem field_below (x k a w n : Nat) (h : a + w ≤ n) :
    (((k <<< n) ||| x) >>> a) &&& (2 ^ w - 1) = (x >>> a) &&& (2 ^ w - 1) := by
  rw [Nat.and_two_pow_sub_one_eq_mod, Nat.and_two_pow_sub_one_eq_mod, ← shiftRight_mod_of_mod _ n a w h, Nat.or_mod_two_pow,
    Nat.shiftLeft_eq, Nat.mul_mod_left, Nat.zero_or, shiftRight_mod_of_mod _ n a w h]

theorem shl_or_split (d k n : Nat) (hk : k < 2 ^ n) :
    ((d <<< n) ||| k) >>> n = d ∧ ((d <<< n) ||| k) &&& (2 ^ n - 1) = k := by
  rw [← Nat.shiftLeft_add_eq_or_of_lt hk, Nat.shiftLeft_eq, Nat.shiftRight_eq_div_pow, Nat.and_two_pow_sub_one_eq_mod,
    Nat.mul_comm, Nat.mul_add_div (Nat.two_pow_pos n), Nat.mul_add_mod, Nat.div_eq_of_lt hk, Nat.mod_eq_of_lt hk]
  exact ⟨rfl, rfl⟩

theorem and_shiftLeft (x m n : Nat) : x &&& (m <<< n) = ((x >>> n) &&& m) <<< n := by
  apply Nat.eq_of_testBit_eq
  intro i
  simp only [Nat.testBit_and, Nat.testBit_shiftLeft, Nat.testBit_shiftRight]
  by_cases hi : i ≥ n
  · simp [hi, Nat.add_sub_cancel' hi]
  · simp [hi]

theorem bits_mul_bib (s : States) : s.bits * s.bib = 8 := by cases s <;> rfl
theorem bib_pos (s : States) : 0 < s.bib := by cases s <;> decide
theorem bits_pos (s : States) : 0 < s.bits := by cases s <;> decide
theorem mask_eq (s : States) : s.mask = 2 ^ s.bits - 1 := rfl

/-- `write_n_state` pushes a byte when the symbols still to come fill whole bytes -/
theorem pushes_iff (s : States) (m : Nat) : ((m * s.bits) % 8 = 0) ↔ (m % s.bib = 0) := by
  rw [← bits_mul_bib s, Nat.mul_comm s.bits, Nat.mul_mod_mul_right, Nat.mul_eq_zero]
  have := bits_pos s
  omega

/-- slot `i` of byte `b`, counted from the least significant end -/
def sym (s : States) (b i : Nat) : Nat := (b >>> (i * s.bits)) &&& s.mask

theorem unpackByte_eq (s : States) (k b : Nat) :
    unpackByte s k b = (List.range k).reverse.map (sym s b) := rfl

theorem sym_eq (s : States) (b i : Nat) : sym s b i = b / 2 ^ (i * s.bits) % 2 ^ s.bits := by
  rw [sym, mask_eq, Nat.and_two_pow_sub_one_eq_mod, Nat.shiftRight_eq_div_pow]

theorem sym_shift (s : States) (x v i : Nat) (hv : v < 2 ^ s.bits) : sym s (x * 2 ^ s.bits + v) (i + 1) = sym s x i := by
  rw [sym_eq, sym_eq, Nat.add_mul, Nat.one_mul, Nat.add_comm (i * s.bits), Nat.pow_add, ← Nat.div_div_eq_div_mul, Nat.mul_comm x,
    Nat.mul_add_div (Nat.two_pow_pos _), Nat.div_eq_of_lt hv, Nat.add_zero]

/-- the `u8` shift of the working byte keeps its low `8 - bits` bits -/
theorem shiftByte_eq (s : States) (w : Nat) : (w <<< s.bits) % 256 = w % 2 ^ (8 - s.bits) * 2 ^ s.bits := by
  rw [Nat.shiftLeft_eq, show 256 = 2 ^ (8 - s.bits) * 2 ^ s.bits by cases s <;> rfl, Nat.mul_mod_mul_right]

theorem sym_push_zero (s : States) (w v : Nat) (hv : v < 2 ^ s.bits) : sym s ((w <<< s.bits) % 256 + v) 0 = v := by
  rw [shiftByte_eq, sym_eq, Nat.zero_mul, Nat.pow_zero, Nat.div_one, Nat.mul_comm, Nat.mul_add_mod, Nat.mod_eq_of_lt hv]

theorem sym_push_succ (s : States) (w v j : Nat) (hv : v < 2 ^ s.bits) (hj : j + 1 < s.bib) :
    sym s ((w <<< s.bits) % 256 + v) (j + 1) = sym s w j := by
  have h1 : (j + 1 + 1) * s.bits ≤ s.bib * s.bits := Nat.mul_le_mul_right _ hj
  rw [Nat.mul_comm s.bib, bits_mul_bib, Nat.add_mul (j + 1), Nat.add_mul j, Nat.one_mul] at h1
  rw [shiftByte_eq, sym_shift s _ v j hv, sym, sym, mask_eq, Nat.and_two_pow_sub_one_eq_mod, Nat.and_two_pow_sub_one_eq_mod,
    shiftRight_mod_of_mod _ _ _ _ (by omega)]

theorem unpack_push (s : States) {j k : Nat} (w v : Nat) (hv : v < 2 ^ s.bits) (hk : j + 1 = k) (hj : k ≤ s.bib) :
    unpackByte s k ((w <<< s.bits) % 256 + v) = unpackByte s j w ++ [v] := by
  subst hk
  simp only [unpackByte_eq, List.range_succ_eq_map, List.reverse_cons, List.map_append, List.map_cons,
    List.map_nil, ← List.map_reverse, List.map_map, sym_push_zero s w v hv]
  congr 1
  apply List.map_congr_left
  intro i hi
  simp only [List.mem_reverse, List.mem_range] at hi
  exact sym_push_succ s w v i hv (by omega)

theorem unpackByte_zero (s : States) (k : Nat) : unpackByte s k 0 = List.replicate k 0 := by
  rw [List.eq_replicate_iff]
  simp [unpackByte_eq, sym_eq]

/-- all symbol slots of a packed value, most significant first -/
def unpackAll (s : States) (d : List Nat) : List Nat := d.flatMap (unpackByte s s.bib)

theorem unpackAll_cons (s : States) (b : Nat) (d : List Nat) : unpackAll s (b :: d) = unpackByte s s.bib b ++ unpackAll s d :=
  List.flatMap_cons

theorem unpackAll_length (s : States) (d : List Nat) : (unpackAll s d).length = d.length * s.bib := by
  induction d with
  | nil => simp [unpackAll]
  | cons b t ih => rw [unpackAll_cons, List.length_append, ih]; simp [unpackByte_eq, Nat.succ_mul, Nat.add_comm]

/-- **what `write_n_state` produces**, read slot by slot: the symbols, right-aligned; in front of them the low end of the
working byte it started with (zeros, when called from outside) -/
theorem unpackAll_writeAux (s : States) (vals : List Nat) (hv : ∀ v ∈ vals, v < 2 ^ s.bits) (w : Nat) :
    unpackAll s (writeAux s vals w none) = unpackByte s (pad s.bib vals.length) w ++ vals := by
  induction vals generalizing w with
  | nil => simp [writeAux, unpackAll, (pad_flush (bib_pos s) (Nat.zero_mod _)).1, unpackByte_eq]
  | cons v rest ih =>
    have hv0 := hv v (by simp)
    have ih := ih (fun x hx => hv x (by simp [hx]))
    simp only [writeAux, pushes_iff, List.length_cons]
    split
    · rename_i h
      obtain ⟨h0, h1⟩ := pad_flush (bib_pos s) h
      rw [unpackAll_cons, ih 0, h0, unpack_push s w v hv0 h1 (Nat.le_refl _)]
      simp [unpackByte_eq]
    · rename_i h
      have hc := pad_carry (bib_pos s) h
      rw [ih, unpack_push s w v hv0 hc.symm (Nat.le_of_lt (pad_lt rest.length s.bib (bib_pos s)))]
      simp

theorem unpackAll_writeNState (s : States) (vals : List Nat) (hv : ∀ v ∈ vals, v < 2 ^ s.bits) :
    unpackAll s (writeNState s vals none) = List.replicate (pad s.bib vals.length) 0 ++ vals := by
  rw [writeNState, unpackAll_writeAux s vals hv, unpackByte_zero]

theorem writeAux_length (s : States) (vals : List Nat) (w : Nat) : (writeAux s vals w none).length = divCeil vals.length s.bib := by
  induction vals generalizing w with
  | nil => exact (Nat.div_eq_of_lt (by have := bib_pos s; simp only [List.length_nil]; omega)).symm
  | cons v rest ih =>
    simp only [writeAux, pushes_iff, List.length_cons, divCeil_succ _ _ (bib_pos s)]
    split <;> simp [ih]

theorem map_reverse_range_drop {α : Type} {f : Nat → α} {n m k : Nat} (h : k + m = n) :
    ((List.range n).reverse.map f).drop k = (List.range m).reverse.map f := by
  rw [← h, Nat.add_comm, List.range_add, List.reverse_append, List.map_append, List.drop_left' (by simp)]

/-- `n_state_to_bit_string` in terms of the slots: a first byte that is not full holds the top `bits % bib` symbols -/
theorem toSyms_eq (s : States) (d : List Nat) (bits : Nat) :
    toSyms s d bits = if bits = 0 then [] else
      if 0 < bits % s.bib then unpackByte s (bits % s.bib) (d.headD 0) ++ unpackAll s (d.drop 1) else unpackAll s d := by
  rw [toSyms, show bits - bits / s.bib * s.bib = bits % s.bib by rw [Nat.mod_def, Nat.mul_comm]]; rfl

theorem toSyms_eq_drop (s : States) (d : List Nat) (bits : Nat) (hd : d.length = divCeil bits s.bib) :
    toSyms s d bits = (unpackAll s d).drop (pad s.bib bits) := by
  have hb := bib_pos s
  have hm := divCeil_mul bits s.bib hb
  rw [← hd] at hm
  rw [toSyms_eq]
  split
  · rename_i h0; subst h0
    rw [List.eq_nil_of_length_eq_zero (hd.trans (divCeil_eq 0 s.bib 0 (by omega) (by omega)))]; exact List.drop_nil.symm
  · split
    · rename_i h
      have hp := pad_add_mod hb h
      cases d with
      | nil =>
        rw [List.length_nil, Nat.zero_mul] at hm
        omega
      | cons b t =>
        rw [unpackAll_cons, List.drop_append_of_le_length (by simp [unpackByte_eq]; omega), unpackByte_eq s s.bib, map_reverse_range_drop hp]
        rfl
    · rename_i h
      rw [(pad_flush (n := bits) hb (by omega)).1]; rfl

theorem toSyms_length (s : States) (d : List Nat) (bits : Nat) (hd : d.length = divCeil bits s.bib) :
    (toSyms s d bits).length = bits := by
  rw [toSyms_eq_drop s d bits hd, List.length_drop, unpackAll_length, hd, divCeil_mul _ _ (bib_pos s)]; omega

theorem pack_unpack (s : States) (vals : List Nat) (hv : ∀ v ∈ vals, v < 2 ^ s.bits) :
    toSyms s (writeNState s vals none) vals.length = vals := by
  rw [toSyms_eq_drop s (writeNState s vals none) _ (writeAux_length s vals 0), unpackAll_writeNState s vals hv,
    List.drop_left' (by simp)]

theorem shiftByte_add_lt (s : States) (w v j : Nat) (hv : v < 2 ^ s.bits) (hw : w < 2 ^ (s.bits * j)) :
    (w <<< s.bits) % 256 + v < 2 ^ (s.bits * (j + 1)) := by
  have h1 : (w <<< s.bits) % 256 ≤ w * 2 ^ s.bits := by rw [Nat.shiftLeft_eq]; exact Nat.mod_le _ _
  have h2 : (w + 1) * 2 ^ s.bits ≤ 2 ^ (s.bits * j) * 2 ^ s.bits := Nat.mul_le_mul_right _ hw
  rw [Nat.mul_add, Nat.mul_one, Nat.pow_add]
  rw [Nat.add_mul, Nat.one_mul] at h2
  omega

/-- with `j` symbols pending in the working byte, the first byte pushed holds them and the first group: `e` symbols in all -/
theorem writeAux_head_lt (s : States) (vals : List Nat) (hv : ∀ v ∈ vals, v < 2 ^ s.bits) (w j e : Nat)
    (hw : w < 2 ^ (s.bits * j)) (he : e + pad s.bib vals.length = j + s.bib) :
    (writeAux s vals w none).headD 0 < 2 ^ (s.bits * e) := by
  induction vals generalizing w j with
  | nil => exact Nat.two_pow_pos _
  | cons v rest ih =>
    have hw' := shiftByte_add_lt s w v j (hv v (by simp)) hw
    simp only [writeAux, pushes_iff, List.length_cons] at he ⊢
    split
    · rename_i h
      have := (pad_flush (bib_pos s) h).2
      rwa [List.headD_cons, show e = j + 1 by omega]
    · rename_i h
      have := pad_carry (bib_pos s) h
      exact ih (fun x hx => hv x (by simp [hx])) _ (j + 1) hw' (by omega)

theorem writeNState_head_lt (s : States) (vals : List Nat) (hv : ∀ v ∈ vals, v < 2 ^ s.bits) (hm : vals.length % s.bib > 0) :
    (writeNState s vals none).headD 0 < 2 ^ (s.bits * (vals.length % s.bib)) :=
  writeAux_head_lt s vals hv 0 0 _ (Nat.two_pow_pos _) (by rw [Nat.add_comm, pad_add_mod (bib_pos s) hm, Nat.zero_add])

end Wellen.Bits
