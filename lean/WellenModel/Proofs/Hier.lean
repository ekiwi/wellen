import WellenModel.Model.Hier
/-! Invariants of the abstract hierarchy specification under every operation sequence; before them the list facts that
the hierarchy proofs share and the identification of the specification's `findIdx?` with the library's. -/
namespace Wellen.Hier

theorem lt_of_getElem? {α : Type} {l : List α} {i : Nat} {a : α} (h : l[i]? = some a) : i < l.length :=
  (List.getElem?_eq_some_iff.mp h).1

theorem getElem?_getD {α : Type} [Inhabited α] {l : List α} {i : Nat} (h : i < l.length) :
    l[i]? = some (l.getD i default) := by
  simp [List.getD_eq_getElem?_getD, h]

theorem getElem?_snoc {α : Type} {l : List α} {x n : α} {i : Nat} (h : (l ++ [x])[i]? = some n) :
    (i < l.length ∧ l[i]? = some n) ∨ (i = l.length ∧ n = x) := by
  rw [List.getElem?_append] at h
  split at h
  · exact .inl ⟨‹_›, h⟩
  · have := lt_of_getElem? h
    have hi : i = l.length := by simp at this; omega
    subst hi
    simp at h
    exact .inr ⟨rfl, h.symm⟩

theorem getElem?_snoc_left {α : Type} {l : List α} {x n : α} {i : Nat} (h : l[i]? = some n) : (l ++ [x])[i]? = some n := by
  rw [List.getElem?_append_left (lt_of_getElem? h)]; exact h

theorem find?_congr {α : Type} {p q : α → Bool} {l : List α} (h : ∀ x ∈ l, p x = q x) : l.find? p = l.find? q := by
  induction l with
  | nil => rfl
  | cons a r ih => simp only [List.find?_cons, h a (by simp), ih fun x hx => h x (List.mem_cons_of_mem _ hx)]

theorem foldl_bind_none {α β : Type} (f : α → β → Option α) (l : List β) :
    l.foldl (fun acc n => acc.bind fun s => f s n) none = none := by
  induction l with
  | nil => rfl
  | cons a r ih => simpa using ih

theorem findIdx?_eq_go (p : FNode → Bool) (l : List FNode) (k : Nat) : findIdx? p l k = List.findIdx?.go p l k := by
  induction l generalizing k with
  | nil => rfl
  | cons a r ih => simp only [findIdx?, List.findIdx?.go, ih]

theorem findIdx?_zero (p : FNode → Bool) (l : List FNode) : findIdx? p l 0 = l.findIdx? p := findIdx?_eq_go p l 0

theorem findIdx?_spec {p : FNode → Bool} {l : List FNode} {j : Nat} (h : findIdx? p l 0 = some j) :
    j < l.length ∧ p (l.getD j default) = true ∧ ∀ i, i < j → p (l.getD i default) = false := by
  rw [findIdx?_zero, List.findIdx?_eq_some_iff_getElem] at h
  obtain ⟨hj, hp, hlt⟩ := h
  refine ⟨hj, by simpa [List.getD_eq_getElem?_getD, hj] using hp, fun i hi => ?_⟩
  have hi' : i < l.length := by omega
  simpa [List.getD_eq_getElem?_getD, hi'] using hlt i hi

theorem findIdx?_none {p : FNode → Bool} {l : List FNode} (h : findIdx? p l 0 = none) : ∀ n ∈ l, p n = false := by
  rwa [findIdx?_zero, List.findIdx?_eq_none_iff] at h

theorem findIdx?_eq_find?_range (p : FNode → Bool) (l : List FNode) :
    findIdx? p l 0 = (List.range l.length).find? (fun i => p (l.getD i default)) := by
  cases h : findIdx? p l 0 with
  | none =>
    refine (List.find?_eq_none.mpr fun i hi => ?_).symm
    simpa using findIdx?_none h _ (List.mem_of_getElem? (getElem?_getD (List.mem_range.mp hi)))
  | some j =>
    obtain ⟨hj, hp, hlt⟩ := findIdx?_spec h
    exact (List.find?_range_eq_some.mpr ⟨hp, List.mem_range.mpr hj, fun i hi => by rw [hlt i hi]; rfl⟩).symm

structure Inv (s : SpecSt) : Prop where
  /-- parents are scopes declared earlier: the structure is a forest in declaration order -/
  parents : ∀ (i : Nat) (n : FNode), s.nodes[i]? = some n → ∀ p, n.parent = some p → p < i ∧ ∃ m : FNode, s.nodes[p]? = some m ∧ m.isScope = true
  /-- no two sibling scopes share a name -/
  distinct : ∀ (i j : Nat) (a b : FNode), i < j → s.nodes[i]? = some a → s.nodes[j]? = some b →
    a.isScope = true → b.isScope = true → a.parent = b.parent → a.name ≠ b.name
  /-- open scopes exist -/
  stack : ∀ j, SEntry.scope j ∈ s.stack → ∃ m : FNode, s.nodes[j]? = some m ∧ m.isScope = true

theorem Inv.parent_lt {s : SpecSt} (hi : Inv s) {i p : Nat} (h : i < s.nodes.length)
    (hp : (s.nodes.getD i default).parent = some p) : p < i :=
  (hi.parents i _ (getElem?_getD h) p hp).1

theorem Inv.open_lt {s : SpecSt} (hi : Inv s) {j : Nat} (h : SEntry.scope j ∈ s.stack) : j < s.nodes.length :=
  let ⟨_, hm, _⟩ := hi.stack j h; lt_of_getElem? hm

theorem curParent_mem {st : List SEntry} {p : Nat} (h : curParent st = some p) : SEntry.scope p ∈ st := by
  induction st with
  | nil => simp [curParent] at h
  | cons e r ih =>
    cases e with
    | flat => exact List.mem_cons_of_mem _ (ih h)
    | scope j => simp only [curParent, Option.some.injEq] at h; subst h; simp

theorem inv_init : Inv {} :=
  ⟨fun _ _ h => by simp at h, fun _ _ _ _ _ h => by simp at h, fun _ h => by simp at h⟩

theorem inv_add {s : SpecSt} {x : FNode} {st' : List SEntry} (hi : Inv s)
    (hpar : x.parent = curParent s.stack)
    (hnew : x.isScope = true → ∀ n ∈ s.nodes, (n.isScope && n.parent == x.parent && n.name == x.name) = false)
    (hst : ∀ j, SEntry.scope j ∈ st' → SEntry.scope j ∈ s.stack ∨ (j = s.nodes.length ∧ x.isScope = true)) :
    Inv { nodes := s.nodes ++ [x], stack := st' } := by
  refine ⟨?_, ?_, ?_⟩
  · intro i n hn p hp
    rcases getElem?_snoc hn with ⟨_, h⟩ | ⟨rfl, rfl⟩
    · obtain ⟨h1, m, h2, h3⟩ := hi.parents i n h p hp
      exact ⟨h1, m, getElem?_snoc_left h2, h3⟩
    · obtain ⟨m, h2, h3⟩ := hi.stack p (curParent_mem (hpar ▸ hp))
      exact ⟨lt_of_getElem? h2, m, getElem?_snoc_left h2, h3⟩
  · intro i j a b hij ha hb sa sb hp hname
    rcases getElem?_snoc hb with ⟨hlt, h⟩ | ⟨rfl, rfl⟩
    · rcases getElem?_snoc ha with ⟨_, h2⟩ | ⟨rfl, _⟩
      · exact hi.distinct i j a b hij h2 h sa sb hp hname
      · omega
    · rcases getElem?_snoc ha with ⟨_, h2⟩ | ⟨rfl, _⟩
      · simpa [sa, hp, hname] using hnew sb a (List.mem_of_getElem? h2)
      · omega
  · intro j hj
    rcases hst j hj with h | ⟨rfl, h2⟩
    · obtain ⟨m, h3, h4⟩ := hi.stack j h
      exact ⟨m, getElem?_snoc_left h3, h4⟩
    · exact ⟨x, by simp, h2⟩

theorem inv_step {s s' : SpecSt} {op : Op} (hi : Inv s) (h : specStep s op = some s') : Inv s' := by
  have restack : ∀ st', (∀ j, SEntry.scope j ∈ st' → ∃ m : FNode, s.nodes[j]? = some m ∧ m.isScope = true) →
      Inv { s with stack := st' } := fun _ h => ⟨hi.parents, hi.distinct, h⟩
  cases op with
  | pop =>
    cases hs : s.stack with
    | nil => simp [specStep, hs] at h
    | cons e r =>
      simp only [specStep, hs, Option.some.injEq] at h; subst h
      exact restack r fun j hj => hi.stack j (hs ▸ List.mem_cons_of_mem _ hj)
  | var name sig =>
    simp only [specStep, Option.some.injEq] at h; subst h
    exact inv_add hi rfl nofun (fun j hj => Or.inl hj)
  | scope name flatten =>
    simp only [specStep] at h
    split at h
    · next j hf =>
      simp only [Option.some.injEq] at h; subst h
      obtain ⟨hlt, hp, _⟩ := findIdx?_spec hf
      refine restack _ fun k hk => ?_
      rcases List.mem_cons.mp hk with hk | hk
      · cases hk
        exact ⟨_, getElem?_getD hlt, by simp only [Bool.and_eq_true] at hp; exact hp.1.1⟩
      · exact hi.stack k hk
    · next hf =>
      split at h <;> (simp only [Option.some.injEq] at h; subst h)
      · exact restack _ fun k hk => hi.stack k (by simpa using hk)
      · refine inv_add hi rfl (fun _ => findIdx?_none hf) fun j hj => ?_
        rcases List.mem_cons.mp hj with hj | hj
        · cases hj; exact .inr ⟨rfl, rfl⟩
        · exact .inl hj

theorem inv_run {ops : List Op} {s s' : SpecSt} (hi : Inv s)
    (h : ops.foldl (fun acc op => acc.bind (fun s => specStep s op)) (some s) = some s') : Inv s' := by
  refine List.foldlRecOn ops _ (motive := fun o => ∀ s', o = some s' → Inv s') (fun _ h => ?_) (fun o ho op _ s1 h1 => ?_) s' h
  · cases h; exact hi
  · cases o with
    | none => cases h1
    | some s0 => exact inv_step (ho s0 rfl) h1

end Wellen.Hier
