import WellenModel.Proofs.Stream
import WellenModel.Proofs.Canon
import WellenModel.Proofs.Slice
/-!
The pre-encoded write path (`add_n_bit_change`, used by the GHW loader): what the encoder appends for a value the
specification accepts is the chunk of that value — smallest kind, packed symbols — exactly as on the VCD path.
-/
namespace Wellen.Slice
open Wellen.Bits Wellen.Store Wellen.Spec

theorem checkMinState_union_lt (s : States) (v : List Nat) (k acc : Nat) :
    v.foldl (fun acc b => (List.range s.bib).foldl (fun acc ii => acc ||| ((b >>> (ii * s.bits)) &&& s.mask)) acc) acc < 2 ^ k ↔
      acc < 2 ^ k ∧ ∀ x ∈ unpackAll s v, x < 2 ^ k := by
  induction v generalizing acc with
  | nil => simp [unpackAll]
  | cons b r ih =>
    simp only [List.foldl_cons, ih, unpackAll_cons, List.mem_append, or_imp, forall_and, unpackByte_eq, List.mem_map,
      List.mem_reverse, forall_exists_index, and_imp, forall_apply_eq_imp_iff₂]
    exact (and_congr_left' (foldl_or_lt (sym s b) _ k acc)).trans and_assoc

/-- a canonically packed value holds zeros in its padding slots -/
theorem unpackAll_canonical (s : States) (v : List Nat) (bits : Nat) (hl : v.length = divCeil bits s.bib)
    (hc : writeNState s (toSyms s v bits) none = v) :
    unpackAll s v = List.replicate (pad s.bib bits) 0 ++ toSyms s v bits := by
  have h := unpackAll_writeNState s (toSyms s v bits) (toSyms_lt s v bits hl)
  rwa [hc, toSyms_length s v bits hl] at h

/-- **`check_min_state` = the smallest sufficient kind of the value's symbols** (canonically packed values) -/
theorem checkMinState_kindOf (st : States) (v : List Nat) (bits : Nat) (hl : v.length = divCeil bits st.bib)
    (hc : writeNState st (toSyms st v bits) none = v) :
    checkMinState v st = Wellen.Spec.kindOf (toSyms st v bits) := by
  -- the union over all slots is below 2^k ⟺ every symbol is: the padding slots hold zeros
  have hchar : ∀ k, (v.foldl (fun acc b => (List.range st.bib).foldl (fun acc ii => acc ||| ((b >>> (ii * st.bits)) &&& st.mask)) acc) 0) < 2 ^ k ↔
      ∀ x ∈ toSyms st v bits, x < 2 ^ k := by
    intro k
    rw [checkMinState_union_lt st v k 0, and_iff_right (Nat.two_pow_pos k), unpackAll_canonical st v bits hl hc]
    simp only [List.mem_append, List.mem_replicate]
    exact ⟨fun h x hx => h x (.inr hx), fun h x hx => hx.elim (fun e => e.2 ▸ Nat.two_pow_pos k) (h x)⟩
  have hsym := toSyms_lt st v bits hl
  unfold checkMinState
  split
  · rename_i h2; subst h2
    exact ((kindOf_two _).mpr fun x hx => Nat.le_of_lt_succ (hsym x hx)).symm
  · exact fromValue_eq_kindOf _ _ hchar ((hchar 4).mpr fun x hx =>
      Nat.lt_of_lt_of_le (hsym x hx) (Nat.pow_le_pow_right (by decide) (by cases st <;> decide)))

end Wellen.Slice

namespace Wellen.Store
open Wellen.Bits Wellen.Spec Wellen.Slice

/-- what `add_n_bit_change` appends for a pre-encoded value the specification accepts: the chunk of the specification's value -/
theorem addNBit_value (ti : Nat) (bytes : List Nat) (st : States) (si snew : SigEnc) (bits : Nat)
    (ht : si.tpe = .bitvec bits) (hb : bits ≠ 1) (h : addNBit ti bytes st si = some snew)
    (v : Value) (hv : rawValue (.bitvec bits) st bytes = some v) :
    ∃ syms, v = .bits syms ∧ syms.length = bits ∧ (∀ x ∈ syms, x < 2 ^ (kindOf syms).bits) ∧
      snew.chunks = encChange (ti - si.prevTimeIdx) (kindOf syms) (writeNState (kindOf syms) syms none) :: si.chunks ∧
      snew.prevTimeIdx = ti ∧ snew.tpe = si.tpe ∧ si.maxStates.toNat ≤ snew.maxStates.toNat ∧
      (kindOf syms).toNat ≤ snew.maxStates.toNat := by
  obtain ⟨vv, hvv, hvl, rfl⟩ := addNBit_vec ht hb h
  have hlen : ¬ bytes.length < divCeil bits st.bib := fun hlt => by
    rw [hvv, List.length_drop] at hvl; omega
  simp only [rawValue, hb, hlen, ↓reduceIte, ← hvv] at hv
  split at hv
  · rename_i hcond
    cases hv
    obtain ⟨h9, hcanon⟩ := hcond
    have h9' : ∀ x ∈ toSyms st vv bits, x < 9 := fun x hx => of_decide_eq_true (List.all_eq_true.mp h9 x hx)
    have hmin : checkMinState vv st = kindOf (toSyms st vv bits) := checkMinState_kindOf st vv bits hvl hcanon
    have hbody : (if checkMinState vv st = st then vv else compressTemplate vv st (checkMinState vv st) bits) =
        writeNState (kindOf (toSyms st vv bits)) (toSyms st vv bits) none := by
      split
      · rename_i heq
        rw [← hmin, heq]; exact hcanon.symm
      · rw [compressTemplate_eq_repack st _ vv bits (by rw [hvl]; exact (divCeil_window bits st.bib (bib_pos st)).1), repack_eq_write,
          ← toSyms_eq_fetched st vv bits hvl, hmin]
        rfl
    refine ⟨toSyms st vv bits, rfl, toSyms_length st vv bits hvl, kindOf_fits h9', by rw [hbody, hmin], rfl, rfl,
      join_ge_left _ _, Nat.le_trans (kindOf_le _ st (toSyms_lt st vv bits hvl)) (join_ge_right _ _)⟩
  · cases hv

end Wellen.Store
