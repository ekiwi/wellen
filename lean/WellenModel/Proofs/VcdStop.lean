import WellenModel.Proofs.Handover
/-! Runs of `parse_body`: what was parsed stays in front (truncation), a stop position at or beyond the end of the input is
irrelevant (entry points), any other stop position only cuts the event stream (chunks). All from `step_some` and the lift
lemmas of `Handover.lean`; `step` is not opened here. -/
namespace Wellen.VcdBody

def evsOf : Out → List Ev
  | .ok e => e
  | .err e => e

theorem evsOf_liftOut (E : List Ev) (o : Out) : evsOf (liftOut E o) = E.reverse ++ evsOf o := by
  cases o <;> rfl

theorem run_evs_prefix (stop : Option Nat) (bs : List Nat) (m : M) : m.evs.reverse <+: evsOf (run stop m bs) := by
  have h := run_lift_stop m.evs 0 stop bs { m with evs := [] }
  rw [show stop.map (· + 0) = stop by cases stop <;> rfl, show lift m.evs 0 { m with evs := [] } = m from rfl] at h
  rw [h, evsOf_liftOut]
  exact List.prefix_append _ _

theorem flush_evs (m : M) :
    evsOf (flush m) = m.evs.reverse ∨ ∃ x, evsOf (flush m) = m.evs.reverse ++ [x] := by
  unfold flush
  cases m.st with
  | skipNl => exact .inl rfl
  | lookEnd => exact .inl rfl
  | idTok => exact .inr ⟨_, List.reverse_cons⟩
  | first =>
    simp only
    split
    · exact .inl rfl
    · cases parseFirst m.first.reverse
      case time | oneBit => exact .inr ⟨_, List.reverse_cons⟩
      all_goals exact .inl rfl

theorem run_stop_irrelevant (s : Nat) : ∀ (bs : List Nat) (m : M), m.pos + bs.length ≤ s + 2 →
    run (some s) m bs = run none m bs
  | [], _, _ => rfl
  | b :: bs, m, h => by
    simp only [List.length_cons] at h
    -- `exits` asks for `pos - first.length - 1 > s` with a non-empty token: it cannot hold before position `s + 2`
    have hx : ¬ exits s m b := fun hx => by have := hx.2.2.2.2; omega
    rw [run, run, step_some, if_neg hx]
    cases hs : step none m b with
    | cont m' => exact run_stop_irrelevant s bs m' (by have := step_pos hs; omega)
    | exit e => rfl
    | error e => rfl

theorem run_stop_prefix (s : Nat) : ∀ (bs : List Nat) (m : M), evsOf (run (some s) m bs) <+: evsOf (run none m bs)
  | [], _ => List.prefix_refl _
  | b :: bs, m => by
    by_cases hx : exits s m b
    · rw [run, step_some, if_pos hx]; exact run_evs_prefix none (b :: bs) m
    · rw [run, run, step_some, if_neg hx]
      cases step none m b with
      | cont m' => exact run_stop_prefix s bs m'
      | exit e => exact List.prefix_refl _
      | error e => exact List.prefix_refl _

end Wellen.VcdBody
