import WellenModel.Model.Offset
/-! `find_offset_from_time_table_idx` on a sorted index array: the binary search and the two scans find the group of entries with the greatest index
at or below the needle (`GroupSpec`, `findOffset_spec`, `getOffset_cases`). -/
namespace Wellen.Offset

def Sorted (a : Array Nat) : Prop := ∀ i j, i ≤ j → j < a.size → a[i]! ≤ a[j]!

def sortedB (a : Array Nat) : Bool :=
  (List.range a.size).all fun j => (List.range (j + 1)).all fun i => a[i]! ≤ a[j]!

theorem sorted_of_sortedB (a : Array Nat) (h : sortedB a = true) : Sorted a := by
  intro i j hij hj
  simp only [sortedB, List.all_eq_true, List.mem_range, decide_eq_true_eq] at h
  exact h j hj i (by omega)

theorem Sorted.squeeze {a : Array Nat} (hs : Sorted a) {j k l : Nat} (h1 : j ≤ k) (h2 : k ≤ l) (hl : l < a.size)
    (he : a[j]! = a[l]!) : a[k]! = a[l]! :=
  Nat.le_antisymm (hs k l h2 hl) (he ▸ hs j k h1 (Nat.lt_of_le_of_lt h2 hl))

theorem mid_bounds {lo hi : Nat} (h : lo ≤ hi) : lo ≤ lo + (hi - lo) / 2 ∧ lo + (hi - lo) / 2 ≤ hi :=
  ⟨Nat.le_add_right .., Nat.le_trans (Nat.add_le_add_left (Nat.div_le_self ..) lo) (Nat.le_of_eq (Nat.add_sub_cancel' h))⟩

/-- the search loop, with its invariant as hypotheses: everything left of `lo` is below the needle, everything right of `hi`
above it. The result holds the greatest value that is not above the needle. -/
theorem bsearch_spec (a : Array Nat) (needle lo hi : Nat) (hs : Sorted a)
    (hhi : hi < a.size)
    (hlo : ∀ i, i < lo → i < a.size → a[i]! < needle)
    (hlo0 : lo = 0 → a[0]! ≤ needle)
    (hup : ∀ i, hi < i → i < a.size → needle < a[i]!)
    (hle : lo ≤ hi + 1) :
    ∃ r, bsearch a needle lo hi = some r ∧ r < a.size ∧ a[r]! ≤ needle ∧
      ∀ i, i < a.size → a[i]! ≤ needle → a[i]! ≤ a[r]! := by
  fun_induction bsearch a needle lo hi with
  | case1 lo hi hl mid c1 ih =>
    have hm := mid_bounds hl
    have hmid := Nat.lt_of_le_of_lt hm.2 hhi
    exact ih hhi (fun i hi1 _ => Nat.lt_of_le_of_lt (hs i mid (Nat.le_of_lt_succ hi1) hmid) c1) nofun hup
      (Nat.succ_le_succ hm.2)
  | case2 lo hi hl mid c1 c2 =>
    exact ⟨_, rfl, Nat.lt_of_le_of_lt (mid_bounds hl).2 hhi, Nat.le_of_eq c2, fun i _ h => Nat.le_trans h (Nat.le_of_eq c2.symm)⟩
  | case3 lo hi hl mid c1 c2 c4 =>
    -- `mid = 0` forces `lo = 0`, where the invariant puts a[0] at or below the needle
    have := hlo0 (Nat.le_zero.mp (c4 ▸ (mid_bounds hl).1))
    rw [c4] at c1 c2
    exact absurd (Nat.le_antisymm this (Nat.not_lt.mp c1)) c2
  | case4 lo hi hl mid c1 c2 c4 ih =>
    have hm := mid_bounds hl
    have c3 : needle < a[mid]! := Nat.lt_of_le_of_ne (Nat.not_lt.mp c1) (Ne.symm c2)
    exact ih (Nat.lt_of_le_of_lt (Nat.le_trans (Nat.sub_le mid 1) hm.2) hhi) hlo hlo0
      (fun i hi1 hi2 => Nat.lt_of_lt_of_le c3 (hs mid i (Nat.le_of_pred_lt hi1) hi2))
      (Nat.le_trans hm.1 (Nat.le_of_eq (Nat.sub_one_add_one c4).symm))
  | case5 hi h => exact absurd (Nat.zero_le _) h
  | case6 lo hi hl c0 =>
    obtain rfl : lo = hi + 1 := Nat.le_antisymm hle (Nat.not_le.mp hl)
    refine ⟨hi, rfl, hhi, Nat.le_of_lt (hlo hi (Nat.lt_succ_self _) hhi), fun i hi1 hi2 => ?_⟩
    rcases Nat.lt_or_ge hi i with hc | hc
    · exact absurd hi2 (Nat.not_le_of_lt (hup i hc hi1))
    · exact hs i hi hc hhi

theorem scanStart_spec (a : Array Nat) (v s : Nat) :
    scanStart a v s ≤ s ∧ (∀ j, scanStart a v s ≤ j → j < s → a[j]! = v) ∧
    (scanStart a v s = 0 ∨ a[scanStart a v s - 1]! ≠ v) := by
  fun_induction scanStart a v s with
  | case1 => exact ⟨Nat.le_refl _, fun j _ h => absurd h (Nat.not_lt_zero _), .inl rfl⟩
  | case2 s hv ih =>
    obtain ⟨h1, h2, h3⟩ := ih
    refine ⟨Nat.le_succ_of_le h1, fun j hj1 hj2 => ?_, h3⟩
    rcases Nat.eq_or_lt_of_le (Nat.le_of_lt_succ hj2) with rfl | hj
    · exact hv
    · exact h2 j hj1 hj
  | case3 s hv => exact ⟨Nat.le_refl _, fun j h1 h2 => absurd h2 (Nat.not_lt_of_le h1), .inr hv⟩

theorem scanElems_spec (a : Array Nat) (v start fuel e : Nat) :
    e ≤ scanElems a v start fuel e ∧
    (start + e ≤ a.size → start + scanElems a v start fuel e ≤ a.size) ∧
    (∀ j, start + e ≤ j → j < start + scanElems a v start fuel e → a[j]! = v) ∧
    (a.size ≤ start + e + fuel →
      ¬ (start + scanElems a v start fuel e < a.size ∧ a[start + scanElems a v start fuel e]! = v)) := by
  fun_induction scanElems a v start fuel e with
  | case1 e => exact ⟨Nat.le_refl _, id, fun j h1 h2 => absurd h2 (Nat.not_lt_of_le h1), fun hf h => Nat.not_le_of_lt h.1 hf⟩
  | case2 f e hc ih =>
    obtain ⟨h1, h2, h3, h4⟩ := ih
    refine ⟨Nat.le_of_succ_le h1, fun _ => h2 hc.1, fun j hj1 hj2 => ?_, fun hf => h4 (by omega)⟩
    rcases Nat.eq_or_lt_of_le hj1 with rfl | hj
    · exact hc.2
    · exact h3 j hj hj2
  | case3 f e hc => exact ⟨Nat.le_refl _, id, fun j h1 h2 => absurd h2 (Nat.not_lt_of_le h1), fun _ => hc⟩

/-- What `findOffset` computes, as a predicate on a result. `n` is the un-truncated run length. -/
structure GroupSpec (a : Array Nat) (i : Nat) (d : DataOffset) (n : Nat) : Prop where
  start_lt : d.start < a.size
  n_pos : 0 < n
  n_le : d.start + n ≤ a.size
  le_needle : a[d.start]! ≤ i
  greatest : ∀ j, j < a.size → a[j]! ≤ i → a[j]! ≤ a[d.start]!
  group : ∀ j, j < a.size → (a[j]! = a[d.start]! ↔ d.start ≤ j ∧ j < d.start + n)
  elements : d.elements = n % 65536
  timeMatch : d.timeMatch = (a[d.start]! == i)
  next : d.nextIndex = if d.start + n < a.size then nonZero a[d.start + n]! else none

theorem GroupSpec.after {a : Array Nat} {i : Nat} {d : DataOffset} {n : Nat} (h : GroupSpec a i d n) (hs : Sorted a)
    {q : Nat} (hq : d.start + n ≤ q) (hq2 : q < a.size) : i < a[q]! := by
  have hne : a[q]! ≠ a[d.start]! := fun he => Nat.not_le_of_lt ((h.group q hq2).mp he).2 hq
  have hge := hs d.start q (Nat.le_trans (Nat.le_add_right ..) hq) hq2
  exact Nat.lt_of_not_le fun hle => hne (Nat.le_antisymm (h.greatest q hq2 hle) hge)

theorem findOffset_spec (a : Array Nat) (i : Nat) (hs : Sorted a) (hne : 0 < a.size)
    (h0 : a[0]! ≤ i) : ∃ d n, findOffset a i = some d ∧ GroupSpec a i d n := by
  obtain ⟨r, hr, hrlt, hrle, hrmax⟩ :=
    bsearch_spec a i 0 (a.size - 1) hs (Nat.sub_lt hne Nat.one_pos) (fun j hj => absurd hj (Nat.not_lt_zero _)) (fun _ => h0)
      (fun j hj hj2 => absurd hj2 (Nat.not_lt_of_le (Nat.le_of_pred_lt hj))) (Nat.zero_le _)
  simp only [findOffset, hr]
  refine ⟨_, scanElems a a[r]! (scanStart a a[r]! r) a.size 1, rfl, ?_⟩
  obtain ⟨hsl, hsrun, hsstop⟩ := scanStart_spec a a[r]! r
  obtain ⟨hege, hend, herun, hestop⟩ := scanElems_spec a a[r]! (scanStart a a[r]! r) a.size 1
  -- from here on only these facts about the two scans are used
  generalize scanElems a a[r]! (scanStart a a[r]! r) a.size 1 = n at *
  generalize scanStart a a[r]! r = s at *
  have hslt : s < a.size := Nat.lt_of_le_of_lt hsl hrlt
  have hsv : a[s]! = a[r]! := by
    rcases Nat.eq_or_lt_of_le hsl with rfl | h
    · rfl
    · exact hsrun _ (Nat.le_refl _) h
  have hin : ∀ j, s ≤ j → j < s + n → a[j]! = a[r]! := fun j h1 h2 => by
    rcases Nat.eq_or_lt_of_le h1 with rfl | h
    · exact hsv
    · exact herun j h h2
  refine ⟨hslt, hege, hend hslt, hsv ▸ hrle, fun j hj hji => hsv ▸ hrmax j hj hji, fun j hj => ?_, rfl,
    by show (a[r]! == i) = (a[s]! == i); rw [hsv], rfl⟩
  show a[j]! = a[s]! ↔ s ≤ j ∧ j < s + n
  rw [hsv]
  refine ⟨fun hv => ⟨?_, ?_⟩, fun ⟨h1, h2⟩ => hin j h1 h2⟩
  · -- j < s would squeeze a[s-1], which is not `v`, between two positions that hold `v`
    rcases hsstop with h | h
    · exact h ▸ Nat.zero_le j
    · exact Nat.le_of_not_lt fun hc =>
        h (hs.squeeze (Nat.le_sub_one_of_lt hc) (Nat.le_trans (Nat.sub_le s 1) hsl) hrlt hv)
  · -- j ≥ s + n would squeeze a[s+n], which is not `v`, likewise
    refine Nat.lt_of_not_le fun hc => hestop (Nat.le_add_left ..) ⟨Nat.lt_of_le_of_lt hc hj, ?_⟩
    exact (hs.squeeze (Nat.le_add_right s n) hc hj (hsv.trans hv.symm)).trans hv

theorem getOffset_cases (a : Array Nat) (i : Nat) (hs : Sorted a) :
    (getOffset a i = some none ∧ ∀ j, j < a.size → i < a[j]!) ∨
    (∃ d n, getOffset a i = some (some d) ∧ GroupSpec a i d n) := by
  unfold getOffset
  split
  next h0 => exact .inl ⟨rfl, fun j hj => absurd hj (h0 ▸ Nat.not_lt_zero j)⟩
  next h0 =>
    split
    next h1 => exact .inl ⟨rfl, fun j hj => Nat.lt_of_lt_of_le h1 (hs 0 j (Nat.zero_le _) hj)⟩
    next h1 =>
      obtain ⟨d, n, hd, hg⟩ := findOffset_spec a i hs (Nat.pos_of_ne_zero h0) (Nat.not_lt.mp h1)
      exact .inr ⟨d, n, by rw [hd], hg⟩

end Wellen.Offset
