import WellenModel.Model.Fst
import WellenModel.Proofs.Entry
/-! `expand_entries` on the closed form of the entry layout (`alignEntry_eq`, `putMeta` in `Entry.lean`): widening the
entries of a FST signal yields exactly the entries that would have been written had the wider kind been known from the start
(`expandEntry_putMeta`, `expandEntry_align`); and the entry `add_change` appends is that layout (`writer_entry_eq_align`). -/
namespace Wellen.Fst
open Wellen.Bits Wellen.Store

theorem zeros_append (a b : Nat) : zeros a ++ zeros b = zeros (a + b) := by
  simp [zeros, List.replicate_append_replicate]

theorem zeros_succ (a : Nat) : 0 :: zeros a = zeros (a + 1) := by
  simp [zeros, List.replicate_succ]

theorem zeros_headD (n : Nat) (l : List Nat) : (zeros n ++ l).headD 0 = if n = 0 then l.headD 0 else 0 := by
  cases n <;> rfl

/-- `expand_entries` on an entry: the first byte gives back the meta bits and the data bits it was made of, the region
grows on the left, the meta bits go back in front or on top. Under `two` there are no meta bits (`h2`); a first region byte
that carries them must leave them free (`hx`). -/
theorem expandEntry_putMeta {frm to : States} {bits k : Nat} {region : List Nat} (hle : frm.toNat ≤ to.toNat)
    (hk : k < 4) (h2 : frm = .two → k = 0) (hne : region ≠ [])
    (hx : frm ≠ .two → (getLenAndMeta frm bits).2 = false → region.headD 0 < 64) :
    expandEntry frm to bits (putMeta (getLenAndMeta frm bits).2 (k <<< 6) region) =
      putMeta (getLenAndMeta to bits).2 (k <<< 6)
        (zeros ((getLenAndMeta to bits).1 - (getLenAndMeta frm bits).1) ++ region) := by
  obtain ⟨x, r, rfl⟩ := List.exists_cons_of_ne_nil hne
  have hm := getLenAndMeta_meta_mono bits hle
  have hl := getLenAndMeta_len_mono bits hle
  unfold expandEntry
  simp only []
  by_cases hs : (getLenAndMeta frm bits).1 = (getLenAndMeta to bits).1 ∧ (getLenAndMeta frm bits).2 = (getLenAndMeta to bits).2
  · rw [if_pos hs]
    simp [hs.1, hs.2, zeros]
  · rw [if_neg hs]
    unfold putMeta
    cases hq : (getLenAndMeta frm bits).2
    · have e : (if frm = .two then 0 else (k <<< 6 ||| x) &&& 192) = k <<< 6 ∧
          (if frm = .two then (k <<< 6 ||| x) :: r else ((k <<< 6 ||| x) &&& 63) :: r) = x :: r := by
        by_cases hf : frm = .two
        · simp [hf, h2 hf]
        · have := meta_split k x hk (hx hf hq)
          simp [hf, this.2.1, this.2.2]
      simp only [Bool.false_eq_true, if_false, List.headD_cons, List.drop_succ_cons, List.drop_zero, e.1, e.2]
      cases hr : (getLenAndMeta to bits).2
      · -- no meta byte on either side, so the lengths differ and the region grows by at least one byte
        rw [zeros_pos (Nat.sub_pos_of_lt (Nat.lt_of_le_of_ne hl fun he => hs ⟨he, hq.trans hr.symm⟩))]
        simp
      · simp
    · have hf : frm ≠ .two := fun e => by rw [e, getLenAndMeta_two] at hq; cases hq
      have := meta_split k 0 hk (by decide)
      rw [Nat.or_zero] at this
      simp [hm hq, hf, this.2.1]

/-- the first data byte `h` has to leave the two meta bits free (`hh`) only where `frm` puts them on top of it -/
theorem expandEntry_align {frm to loc : States} {bits h : Nat} {t : List Nat}
    (hle1 : loc.toNat ≤ frm.toNat) (hle2 : frm.toNat ≤ to.toNat)
    (hh : frm ≠ .two → (getLenAndMeta loc bits).1 = (getLenAndMeta frm bits).1 →
      (getLenAndMeta frm bits).2 = false → h < 64) :
    expandEntry frm to bits (alignEntry frm loc bits (h :: t)) = alignEntry to loc bits (h :: t) := by
  have l1 := getLenAndMeta_len_mono bits hle1
  have l2 := getLenAndMeta_len_mono bits hle2
  rw [alignEntry_eq bits _ hle1, alignEntry_eq bits _ (Nat.le_trans hle1 hle2),
    expandEntry_putMeta hle2 (toNat_lt loc) (fun e => by rw [eq_two_of_le (a := loc) (e ▸ hle1)]; rfl) (by simp),
    ← List.append_assoc, zeros_append, Nat.sub_add_sub_cancel l2 l1]
  intro hf hm
  rw [zeros_headD]
  split
  next h0 => exact hh hf (Nat.le_antisymm l1 (Nat.le_of_sub_eq_zero h0)) hm
  next => decide

theorem writeAux_meta (s : States) (vals : List Nat) (md : Nat) : ∀ w, writeAux s vals w none ≠ [] →
    writeAux s vals w (some md) = (md ||| (writeAux s vals w none).headD 0) :: (writeAux s vals w none).drop 1 := by
  induction vals with
  | nil => intro w h; exact absurd rfl h
  | cons v rest ih =>
    intro w
    simp only [writeAux]
    split
    · intro _; rw [Nat.or_comm]; rfl
    · exact ih _

theorem writeNState_meta (s : States) (vals : List Nat) (md : Nat) (hne : writeNState s vals none ≠ []) :
    writeNState s vals (some md) = (md ||| (writeNState s vals none).headD 0) :: (writeNState s vals none).drop 1 :=
  writeAux_meta s vals md 0 hne

/-- the left side is the `entry` of `addChange`, word for word: it is the expression of `alignEntry` once the meta bits handed
to `write_n_state` are written as OR-ed onto the first byte -/
theorem writer_entry_eq_align (sigS loc : States) (bits : Nat) (nums : List Nat) (hne : writeNState loc nums none ≠ []) :
    (let (len, hasMeta) := getLenAndMeta sigS bits
     let (llen, lmeta) := getLenAndMeta loc bits
     let md := loc.toNat <<< 6
     if llen = len ∧ lmeta = hasMeta then
       (if hasMeta then md :: writeNState loc nums none else writeNState loc nums (some md))
     else md :: (zeros (if hasMeta then len - llen else len - llen - 1) ++ writeNState loc nums none)) =
    alignEntry sigS loc bits (writeNState loc nums none) := by
  simp only [writeNState_meta loc nums _ hne]
  rfl

end Wellen.Fst
