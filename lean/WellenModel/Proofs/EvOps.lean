import WellenModel.Model.VcdBody
import WellenModel.Proofs.TimeTable
/-!
Glue between the lexer-level theorems (events of a body) and the store-level theorems (histories of
operations): `VcdEncoder::{time_change, value}` applied to the events of a stream is the store run
on the operations those events denote — identifier codes resolved, the implicit time 0 of a first
chunk that starts with a value inserted, values before the first timestamp of a later chunk dropped
(`readStream_ok`). `opsOfEvs` is `mapM evOp` (`opsOfEvs_eq_mapM`) and taken apart by `mapM_cons_eq_some`.
-/
namespace Wellen.VcdBody
open Wellen.Spec Wellen.Store

/-- the store operation an event denotes; `none` = the identifier does not resolve (`unwrap` panics) -/
def evOp (d : Decls) (rm : RealMap) : Ev → Option Op
  | .time t => some (.time t)
  | .value val id => (resolveId d id).map fun n => .vcd n val (realOf rm val)

def opsOfEvs (d : Decls) (rm : RealMap) : List Ev → Option (List Op)
  | [] => some []
  | e :: r =>
    match evOp d rm e with
    | none => none
    | some o => match opsOfEvs d rm r with
      | none => none
      | some os => some (o :: os)

/-- a first chunk that starts with a value change records it at time 0 -/
def implicitZero : List Ev → List Ev
  | .value v i :: r => .time 0 :: .value v i :: r
  | evs => evs

/-- a later chunk ignores the values in front of its first timestamp -/
def fromFirstTime : List Ev → List Ev
  | .value _ _ :: r => fromFirstTime r
  | evs => evs

theorem opsOfEvs_eq_mapM (d : Decls) (rm : RealMap) (evs : List Ev) : opsOfEvs d rm evs = evs.mapM (evOp d rm) := by
  induction evs with
  | nil => rfl
  | cons e r ih => rw [opsOfEvs, ih, List.mapM_cons]; cases evOp d rm e <;> cases r.mapM (evOp d rm) <;> rfl

theorem opsOfEvs_append (d : Decls) (rm : RealMap) (a b : List Ev) :
    opsOfEvs d rm (a ++ b) = (opsOfEvs d rm a).bind fun x => (opsOfEvs d rm b).map (x ++ ·) := by
  simp only [opsOfEvs_eq_mapM, List.mapM_append]
  cases a.mapM (evOp d rm) <;> cases b.mapM (evOp d rm) <;> rfl

theorem timesOf_opsOfEvs {d : Decls} {rm : RealMap} {evs : List Ev} {ops : List Op}
    (h : opsOfEvs d rm evs = some ops) : timesOf ops = evTimes evs := by
  rw [opsOfEvs_eq_mapM] at h
  induction evs generalizing ops with
  | nil => cases h; rfl
  | cons e r ih =>
    obtain ⟨o, os, ho, hos, rfl⟩ := mapM_cons_eq_some.mp h
    cases e with
    | time t => cases ho; exact congrArg (t :: ·) (ih hos)
    | value v i => obtain ⟨n, -, rfl⟩ := Option.map_eq_some_iff.mp ho; exact (ih hos :)

/-- the operations of `ev :: r`, run: the operation of `ev`, one step of the encoder, then the operations of `r` -/
theorem opsOfEvs_cons_run (c : Codec) (d : Decls) (rm : RealMap) (e : Enc) (ev : Ev) (r : List Ev) :
    (opsOfEvs d rm (ev :: r)).bind (runOps c e) =
      (evOp d rm ev).bind fun o => (stepOp c e o).bind fun e' => (opsOfEvs d rm r).bind (runOps c e') := by
  rw [opsOfEvs]
  cases evOp d rm ev with
  | none => rfl
  | some o =>
    rw [Option.bind_some]
    cases opsOfEvs d rm r with
    | none => cases stepOp c e o <;> rfl
    | some os => exact runOps_cons c e o os

theorem opsOfEvs_time_run (c : Codec) (d : Decls) (rm : RealMap) (e : Enc) (t : Nat) (r : List Ev) :
    (opsOfEvs d rm (.time t :: r)).bind (runOps c e) = (opsOfEvs d rm r).bind (runOps c (timeChange c e t)) :=
  opsOfEvs_cons_run c d rm e (.time t) r

theorem implicitZero_append (a b : List Ev) (h : a ≠ []) : implicitZero (a ++ b) = implicitZero a ++ b := by
  cases a with
  | nil => exact absurd rfl h
  | cons x a => cases x <;> simp [implicitZero]

theorem implicitZero_prefix (a b : List Ev) : implicitZero a <+: implicitZero (a ++ b) := by
  cases a with
  | nil => exact List.nil_prefix
  | cons x a => rw [implicitZero_append _ b (List.cons_ne_nil x a)]; exact List.prefix_append _ _

theorem opsOfEvs_prefix {d : Decls} {rm : RealMap} {pre r : List Ev} {ops : List Op}
    (h : opsOfEvs d rm (implicitZero (pre ++ r)) = some ops) :
    ∃ opsc rest, opsOfEvs d rm (implicitZero pre) = some opsc ∧ ops = opsc ++ rest := by
  obtain ⟨r', hr⟩ := implicitZero_prefix pre r
  rw [← hr, opsOfEvs_append] at h
  obtain ⟨x, hx, h⟩ := Option.bind_eq_some_iff.mp h
  obtain ⟨y, _, rfl⟩ := Option.map_eq_some_iff.mp h
  exact ⟨x, y, hx, rfl⟩

theorem applyEvs_found (c : Codec) (d : Decls) (rm : RealMap) (evs : List Ev) (v : VEnc) (hf : v.found = true) :
    (applyEvs c d rm v evs).map (·.enc) = (opsOfEvs d rm evs).bind (runOps c v.enc) := by
  induction evs generalizing v with
  | nil => rfl
  | cons e r ih =>
    rw [opsOfEvs_cons_run]
    cases e with
    | time t => exact ih _ rfl
    | value val id =>
      simp only [applyEvs, applyEv, evOp, hf, Bool.not_true, Bool.and_false, Bool.false_eq_true, ↓reduceIte]
      cases resolveId d id with
      | none => rfl
      | some n =>
        simp only [Option.map_some, Option.bind_some, stepOp]
        cases vcdChange v.enc n val (realOf rm val) with
        | none => rfl
        | some e' => exact ih _ rfl

theorem applyEvs_first (c : Codec) (d : Decls) (rm : RealMap) (e : Enc) (evs : List Ev) :
    (applyEvs c d rm { enc := e, isFirst := true } evs).map (·.enc) =
      (opsOfEvs d rm (implicitZero evs)).bind (runOps c e) := by
  cases evs with
  | nil => rfl
  | cons ev r =>
    cases ev with
    | time t =>
      simp only [implicitZero]
      rw [opsOfEvs_time_run]
      exact applyEvs_found c d rm r _ rfl
    | value val id =>
      -- the value change itself makes the time step to 0, then the encoder is as after a timestamp
      rw [implicitZero, opsOfEvs_time_run,
        ← applyEvs_found c d rm (.value val id :: r) { enc := timeChange c e 0, isFirst := true, found := true } rfl]
      simp [applyEvs, applyEv]

theorem applyEvs_later (c : Codec) (d : Decls) (rm : RealMap) (e : Enc) (evs : List Ev) :
    (applyEvs c d rm { enc := e, isFirst := false } evs).map (·.enc) =
      (opsOfEvs d rm (fromFirstTime evs)).bind (runOps c e) := by
  induction evs with
  | nil => rfl
  | cons ev r ih =>
    cases ev with
    | time t =>
      simp only [fromFirstTime]
      rw [opsOfEvs_time_run]
      exact applyEvs_found c d rm r _ rfl
    | value val id =>
      rw [fromFirstTime, ← ih]
      simp [applyEvs, applyEv]

theorem applyEvs_enc (c : Codec) (d : Decls) (rm : RealMap) (e : Enc) (isFirst : Bool) (evs : List Ev) :
    (applyEvs c d rm { enc := e, isFirst := isFirst } evs).map (·.enc) =
      (opsOfEvs d rm (if isFirst then implicitZero evs else fromFirstTime evs)).bind (runOps c e) := by
  cases isFirst
  · exact applyEvs_later c d rm e evs
  · exact applyEvs_first c d rm e evs

theorem readStream_ok {c : Codec} {d : Decls} {rm : RealMap} {stream : List Nat} {stop : Option Nat} {isFirst nl : Bool} {enc : Enc}
    (h : readStream c d rm stream stop isFirst nl = .ok enc) :
    ∃ evs ops, parseBody stop stream nl = .ok evs ∧
      opsOfEvs d rm (if isFirst then implicitZero evs else fromFirstTime evs) = some ops ∧
      runOps c (newEnc d.sigTypes) ops = some enc := by
  unfold readStream at h
  cases hp : parseBody stop stream nl with
  | err e0 => rw [hp] at h; simp only at h; split at h <;> cases h
  | ok evs =>
    rw [hp] at h
    simp only at h
    have hg := applyEvs_enc c d rm (newEnc d.sigTypes) isFirst evs
    cases ha : applyEvs c d rm { enc := newEnc d.sigTypes, isFirst := isFirst } evs with
    | none => rw [ha] at h; cases h
    | some v =>
      rw [ha] at h hg
      cases h
      obtain ⟨ops, ho, hr⟩ := Option.bind_eq_some_iff.mp hg.symm
      exact ⟨evs, ops, rfl, ho, hr⟩

theorem evTimes_append (a b : List Ev) : evTimes (a ++ b) = evTimes a ++ evTimes b := by
  induction a with
  | nil => rfl
  | cons x a ih => cases x <;> simp [evTimes, ih]

theorem eventTable_append_prefix (c r : List Ev) :
    strictPrefixMax (evTimes (implicitZero c)) <+: strictPrefixMax (evTimes (implicitZero (c ++ r))) := by
  obtain ⟨r', h⟩ := implicitZero_prefix c r
  rw [← h, evTimes_append]
  exact spm_append_prefix _ _

theorem eventTable_snoc_dropLast (c : List Ev) (x : Ev) :
    (strictPrefixMax (evTimes (implicitZero (c ++ [x])))).dropLast <+: strictPrefixMax (evTimes (implicitZero c)) := by
  by_cases hc : c = []
  · subst hc; cases x <;> exact List.nil_prefix
  · rw [implicitZero_append c [x] hc, evTimes_append]
    cases x with
    | time t => exact spm_snoc_dropLast _ t
    | value v i => rw [show evTimes [.value v i] = [] from rfl, List.append_nil]; exact List.dropLast_prefix _

end Wellen.VcdBody
