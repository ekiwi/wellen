import WellenModel.Proofs.EvOps
import WellenModel.Proofs.SpecPrefix
namespace Wellen.VcdBody
open Wellen.Spec Wellen.Store

/-- **truncation, abstract waveform**: the waveforms denoted by two event lists with the common part `pre` (`C15_prefix_events`: a truncated
body, `r1` empty or the one event made of the cut token, and the complete body) both extend the waveform `sc` of `pre`: its time table and
change lists are initial parts of theirs, and the two agree on every change strictly before the last time step of `sc` -/
theorem truncated_waveform {types : Array SigType} {d : Decls} {rm : RealMap} {pre r1 r2 : List Ev} {ops1 ops2 : List Op}
    (h1 : opsOfEvs d rm (implicitZero (pre ++ r1)) = some ops1) (h2 : opsOfEvs d rm (implicitZero (pre ++ r2)) = some ops2)
    {s0 s1 s2 : Spec.St} (hw : s0.ttLen = s0.ttRev.length)
    (f1 : foldSpec types ops1 s0 = some s1) (f2 : foldSpec types ops2 s0 = some s2) :
    ∃ opsc sc, opsOfEvs d rm (implicitZero pre) = some opsc ∧ foldSpec types opsc s0 = some sc ∧
      sc.ttRev <:+ s1.ttRev ∧ sc.ttRev <:+ s2.ttRev ∧
      ∀ i, (∃ n1, s1.changesRev.getD i [] = n1 ++ sc.changesRev.getD i []) ∧
           (∃ n2, s2.changesRev.getD i [] = n2 ++ sc.changesRev.getD i []) ∧
           (s1.changesRev.getD i []).filter (fun p => p.1 < sc.ttLen - 1) =
             (s2.changesRev.getD i []).filter (fun p => p.1 < sc.ttLen - 1) := by
  obtain ⟨opsc, rest1, hc1, hs1⟩ := opsOfEvs_prefix h1
  obtain ⟨opsc', rest2, hc2, hs2⟩ := opsOfEvs_prefix h2
  obtain rfl := Option.some.inj (hc1.symm.trans hc2)
  subst hs1 hs2
  obtain ⟨sc, hsc, x1, x2⟩ := fold_common hw f1 f2
  refine ⟨opsc, sc, hc1, hsc, x1.tt, x2.tt, fun i => ⟨?_, ?_, ?_⟩⟩
  · obtain ⟨n, hn, _⟩ := x1.ch i; exact ⟨n, hn⟩
  · obtain ⟨n, hn, _⟩ := x2.ch i; exact ⟨n, hn⟩
  · rw [x1.filter_eq i, x2.filter_eq i]

end Wellen.VcdBody
