import WellenModel.Proofs.SpecStep
/-! Splits are transparent for the specification: a history with `split` marks (one encoder per parser thread) denotes the
same waveform as the history without them (`run_dropSplits`). Also the segments of a history: `splitOps` on split-free and on
joined histories (`splitOps_nosplit`, `splitOps_join`; `splitOps` and `dropSplits` undo `joinSegs`: `splitOps_joinSegs`,
`dropSplits_eq_flatten`), and `runSegs` as one encoder per segment, appended (`runSegs_eq_some`, `runSegs_joinSegs`). -/
namespace Wellen.VcdBody

def NoSplit (ops : List Spec.Op) : Prop := ∀ op ∈ ops, op ≠ .split

end Wellen.VcdBody

namespace Wellen.Spec
open Wellen.Store Wellen.Bits Wellen.VcdBody

/-- a history without its `split` marks (= the same recording made by one parser thread) -/
def dropSplits (ops : List Op) : List Op :=
  ops.filter (fun op => match op with | .split => false | _ => true)

theorem dropSplits_cons {o : Op} (h : o ≠ .split) (r : List Op) : dropSplits (o :: r) = o :: dropSplits r := by
  cases o with
  | split => exact absurd rfl h
  | _ => rfl

theorem splitOps_cons {o : Op} (h : o ≠ .split) (r : List Op) :
    splitOps (o :: r) = match splitOps r with | [] => [[o]] | sg :: ss => (o :: sg) :: ss := by
  cases o with
  | split => exact absurd rfl h
  | _ => rfl

def clearNeedNewMax (s : St) : St := { s with needNewMax := false }

theorem step_clearNeedNewMax {types : Array SigType} {s t : St} {op : Op} (h : Step types s op t) :
    (op = .split → clearNeedNewMax t = clearNeedNewMax s) ∧ (op ≠ .split → Step types (clearNeedNewMax s) op (clearNeedNewMax t)) := by
  cases h with
  | first tm h => exact ⟨nofun, fun _ => .first tm h⟩
  | newMax tm h hlt => exact ⟨nofun, fun _ => .newMax tm h hlt⟩
  | noMax tm h hle hn => exact ⟨nofun, fun _ => .noMax tm h hle rfl⟩
  | splitEmpty h => exact ⟨fun _ => rfl, fun h => absurd rfl h⟩
  | split h => exact ⟨fun _ => rfl, fun h => absurd rfl h⟩
  | skip hw hn he hs => exact ⟨fun e => absurd e hw.not_time_split.2, fun _ => Step.skip (s := clearNeedNewMax s) hw rfl he hs⟩
  | write hj hw hn he hs => exact ⟨fun e => absurd e hw.not_time_split.2, fun _ => Step.write (s := clearNeedNewMax s) hj hw rfl he hs⟩

theorem fold_dropSplits {types : Array SigType} {ops : List Op} {s t : St} (h : foldSpec types ops s = some t) :
    foldSpec types (dropSplits ops) (clearNeedNewMax s) = some (clearNeedNewMax t) := by
  induction ops generalizing s with
  | nil => cases h; rfl
  | cons op r ih =>
    rw [foldSpec_cons, Option.bind_eq_some_iff] at h
    obtain ⟨s1, hs, h⟩ := h
    obtain ⟨h1, h2⟩ := step_clearNeedNewMax (.of_step hs)
    by_cases hop : op = .split
    · subst hop; rw [← h1 rfl]; exact ih h
    · rw [dropSplits_cons hop, foldSpec_cons, (h2 hop).to_step]; exact ih h

/-- **splits are transparent**: whatever a history with `split` marks denotes, the same history without the marks — the
recording made by a single parser thread — denotes as well -/
theorem run_dropSplits (types : List SigType) (ops : List Op) (r : List Nat × List (List (Nat × Value)))
    (h : run types ops = some r) : run types (dropSplits ops) = some r := by
  rw [run_eq, Option.bind_eq_some_iff] at h
  obtain ⟨t, hf, h⟩ := h
  rw [run_eq, show specInit types = clearNeedNewMax (specInit types) from rfl, fold_dropSplits hf, Option.bind_some]
  split at h
  · cases h
  · exact h

theorem splitOps_join (ops : List Op) : ∃ sg ss, splitOps ops = sg :: ss ∧ ops = sg ++ joinSegs ss := by
  induction ops with
  | nil => exact ⟨[], [], rfl, rfl⟩
  | cons o r ih =>
    obtain ⟨sg, ss, h1, rfl⟩ := ih
    by_cases ho : o = .split
    · exact ⟨[], sg :: ss, by rw [ho, splitOps, h1], by rw [ho]; rfl⟩
    · exact ⟨o :: sg, ss, by rw [splitOps_cons ho, h1], rfl⟩

theorem splitOps_nosplit (ops : List Op) (h : NoSplit ops) (tail : List Op) :
    splitOps (ops ++ tail) = match splitOps tail with | [] => [ops] | sg :: ss => (ops ++ sg) :: ss := by
  induction ops with
  | nil =>
    simp only [List.nil_append]
    obtain ⟨sg, ss, hst, -⟩ := splitOps_join tail
    rw [hst]
  | cons o r ih =>
    obtain ⟨ho, hr⟩ := List.forall_mem_cons.mp h
    rw [List.cons_append, splitOps_cons ho, ih hr]
    cases splitOps tail <;> rfl

theorem runSegs_eq_some {c : Codec} {tps : List SigType} {ops : List Op} {e : Enc} :
    runSegs c tps ops = some e ↔
      ∃ e0 er, (splitOps ops).mapM (runOps c (newEnc tps)) = some (e0 :: er) ∧ appendAll c e0 er = some e := by
  unfold runSegs
  cases (splitOps ops).mapM (runOps c (newEnc tps)) with
  | none => simp
  | some encs =>
    cases encs with
    | nil => simp
    | cons e0 er => exact ⟨fun h => ⟨e0, er, rfl, h⟩, fun ⟨_, _, h1, h2⟩ => by cases h1; exact h2⟩

theorem runOps_nosplit {c : Codec} {ops : List Op} {e e' : Enc} (h : runOps c e ops = some e') : NoSplit ops := by
  induction ops generalizing e with
  | nil => nofun
  | cons o r ih =>
    rw [runOps_cons, Option.bind_eq_some_iff] at h
    obtain ⟨e1, h1, h⟩ := h
    -- `stepOp` refuses a split
    exact List.forall_mem_cons.mpr ⟨fun ho => (by subst ho; cases h1), ih h⟩

theorem joinSegs_cons (sg : List Op) (ss : List (List Op)) : joinSegs (sg :: ss) = .split :: (sg ++ joinSegs ss) := rfl

theorem splitOps_joinSegs {seg0 : List Op} {rest : List (List Op)} (hns : ∀ sg ∈ seg0 :: rest, NoSplit sg) :
    splitOps (seg0 ++ joinSegs rest) = seg0 :: rest := by
  induction rest generalizing seg0 with
  | nil => rw [splitOps_nosplit seg0 (hns seg0 (List.mem_cons_self ..))]; simp [joinSegs, splitOps]
  | cons sg ss ih =>
    obtain ⟨h0, hr⟩ := List.forall_mem_cons.mp hns
    rw [splitOps_nosplit seg0 h0, joinSegs_cons]
    simp only [splitOps]
    rw [ih hr]
    simp

theorem dropSplits_eq_flatten (ops : List Op) : dropSplits ops = (splitOps ops).flatten := by
  induction ops with
  | nil => rfl
  | cons o r ih =>
    by_cases ho : o = .split
    · subst ho; exact ih
    · obtain ⟨sg, ss, h, -⟩ := splitOps_join r
      rw [dropSplits_cons ho, splitOps_cons ho, ih, h]; rfl

theorem runSegs_joinSegs {c : Codec} {tps : List SigType} {seg0 : List Op} {rest : List (List Op)}
    (hns : ∀ sg ∈ seg0 :: rest, NoSplit sg) {e : Enc} :
    Spec.runSegs c tps (seg0 ++ joinSegs rest) = some e ↔
      ∃ e0 er, (seg0 :: rest).mapM (runOps c (newEnc tps)) = some (e0 :: er) ∧ appendAll c e0 er = some e := by
  rw [runSegs_eq_some, splitOps_joinSegs hns]

end Wellen.Spec
