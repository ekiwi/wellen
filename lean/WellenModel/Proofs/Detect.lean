import WellenModel.Model.Detect
/-! `detect_file_format`: what `is_vcd` does on white space, `$`, a word, white space, rest (`isVcd_cmd`), white space only
(`detect_whitespace`), and when the block walk of `is_fst_file` terminates (`isFstWalk_forward`). -/
namespace Wellen.Detect

/-- 71 = `G`, the first byte of the GHW magic -/
theorem isWs_not_blockType (b : Nat) (h : isWs b = true) : validBlockType b = false ∧ b ≠ 71 := by
  simp only [isWs, Bool.or_eq_true, beq_iff_eq] at h
  rcases h with ((rfl | rfl) | rfl) | rfl <;> decide

theorem skipWs_append (ws r : List Nat) (hws : ∀ b ∈ ws, isWs b = true) : skipWs (ws ++ r) = skipWs r := by
  induction ws with
  | nil => rfl
  | cons b t ih =>
    simp only [List.cons_append, skipWs, hws b (by simp), ↓reduceIte]
    exact ih (fun x hx => hws x (by simp [hx]))

theorem readToken_append (tok : List Nat) (w : Nat) (rest acc : List Nat)
    (htok : ∀ b ∈ tok, isWs b = false) (hw : isWs w = true) :
    readToken (tok ++ w :: rest) acc = some (acc.reverse ++ tok, rest) := by
  induction tok generalizing acc with
  | nil => simp [readToken, hw]
  | cons b r ih =>
    simp only [List.cons_append, readToken, htok b (by simp), Bool.false_eq_true, ↓reduceIte]
    rw [ih (b :: acc) (fun x hx => htok x (by simp [hx]))]
    simp

theorem isVcd_cmd (ws tok rest : List Nat) (w : Nat) (hws : ∀ b ∈ ws, isWs b = true)
    (htok : ∀ b ∈ tok, isWs b = false) (hw : isWs w = true) :
    isVcd (ws ++ 36 :: (tok ++ w :: rest)) =
      if cmdWords.contains tok then findEnd (dropLeadingWs rest) 0 else false := by
  simp [isVcd, skipWs_append ws _ hws, skipWs, isWs, readToken_append tok w rest [] htok hw]

/-- white space only: not VCD (no `$`), not FST (the first byte is no block type), not GHW (the first byte is not `G`) -/
theorem detect_whitespace (bs : List Nat) (hne : bs ≠ []) (h : ∀ b ∈ bs, isWs b = true) : detect bs = .unknown := by
  cases bs with
  | nil => exact absurd rfl hne
  | cons b r =>
    have hv : isVcd (b :: r) = false := by
      rw [isVcd, ← List.append_nil (b :: r), skipWs_append _ [] h]
      rfl
    obtain ⟨hblock, h71⟩ := isWs_not_blockType b (h b (by simp))
    have hf : isFst (b :: r) = .no := by simp [isFst, isFstWalk, hblock]
    have hg : isGhw (b :: r) = false := by
      have : ((b :: r).take 9 == ghwMagic) = false := by simp [ghwMagic, h71]
      unfold isGhw
      split
      · rfl
      · simp only [this, Bool.false_and]
    simp [detect, hv, hf, hg]

theorem ite_ne {α : Type} {c : Prop} [Decidable c] {x y z : α} (hx : c → x ≠ z) (hy : ¬ c → y ≠ z) : (if c then x else y) ≠ z := by
  split
  · exact hx ‹_›
  · exact hy ‹_›

/-- the block walk stops within `len + 1` steps when every block whose eight length bytes are there seeks forward -/
theorem isFstWalk_forward (bs : List Nat) (fuel pos : Nat) (hf : bs.length < fuel + pos) (hpos : 0 < fuel)
    (hfw : ∀ p, p + 9 ≤ bs.length → u64be ((bs.drop (p + 1)).take 8) < 2 ^ 63 ∧ 8 ≤ u64be ((bs.drop (p + 1)).take 8)) :
    isFstWalk bs fuel pos ≠ .hang := by
  induction fuel generalizing pos with
  | zero => omega
  | succ fuel ih =>
    rw [isFstWalk]
    cases hb : bs[pos]? with
    | none => nofun
    | some t =>
      refine ite_ne (fun _ => nofun) fun _ => ite_ne (fun _ => nofun) fun hlen => ?_
      have hp : pos + 9 ≤ bs.length := by simp only [List.length_take, List.length_drop] at hlen; omega
      obtain ⟨h1, h2⟩ := hfw pos hp
      -- a forward seek: no wrap-around, the target is `pos + 1 + len`
      have ht : ((pos : Int) + 9 + ((u64be ((bs.drop (pos + 1)).take 8) : Int) - 8)).toNat =
          pos + 1 + u64be ((bs.drop (pos + 1)).take 8) := by omega
      simp only [if_pos h1, if_neg (show ¬ ((u64be ((bs.drop (pos + 1)).take 8) : Int) - 8 < -2 ^ 63) by omega), ht]
      exact ite_ne (fun _ => nofun) fun _ => ite_ne (fun _ => nofun) fun _ => ih _ (by omega) (by omega)

end Wellen.Detect
