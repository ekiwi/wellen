import WellenModel.Proofs.SpecStep
/-! The time table built by `Encoder::time_change` / `finish_block` / `finish` is exactly the list of timestamps greater than
all earlier ones, for every number of time steps and every block size (`finish_table_of_run`), and so is the specification's
(`spec_table`). `strictPrefixMax` has one append law (`spm_go_append`, `spm_append`); what `time_change`, a value change and
`append` do is said once each (`timeChange_cases`, `valueChange_cases`, `append_eq`). -/
namespace Wellen.Spec
open Wellen.Bits Wellen.Store

def lastD (l : List Nat) (d : Nat) : Nat := l.getLast?.getD d

theorem lastD_cons (a : Nat) (l : List Nat) (d : Nat) : lastD (a :: l) d = lastD l a := by
  simp [lastD, List.getLast?_cons]

theorem lastD_append_single (l : List Nat) (t d : Nat) : lastD (l ++ [t]) d = t := by
  simp [lastD]

theorem spm_go_append (r : List Nat) : ∀ (l : List Nat) (m : Nat),
    strictPrefixMax.go m (l ++ r) = strictPrefixMax.go m l ++ strictPrefixMax.go (lastD (strictPrefixMax.go m l) m) r
  | [], m => rfl
  | u :: l, m => by
    simp only [List.cons_append, strictPrefixMax.go]
    split
    · rw [spm_go_append r l u, List.cons_append, lastD_cons]
    · exact spm_go_append r l m

theorem spm_append (a b : List Nat) :
    strictPrefixMax (a ++ b) = strictPrefixMax a ++
      match (strictPrefixMax a).getLast? with
      | none => strictPrefixMax b
      | some m => strictPrefixMax.go m b := by
  cases a with
  | nil => rfl
  | cons t0 l => simp only [List.cons_append, strictPrefixMax, spm_go_append, List.getLast?_cons]; rfl

theorem spm_append_prefix (a b : List Nat) : strictPrefixMax a <+: strictPrefixMax (a ++ b) :=
  spm_append a b ▸ List.prefix_append _ _

theorem spm_snoc (ts : List Nat) (t : Nat) :
    strictPrefixMax (ts ++ [t]) =
      match (strictPrefixMax ts).getLast? with
      | none => [t]
      | some m => if t > m then strictPrefixMax ts ++ [t] else strictPrefixMax ts := by
  rw [spm_append]
  cases h : (strictPrefixMax ts).getLast? with
  | none => rw [List.getLast?_eq_none_iff.mp h]; rfl
  | some m => simp only [strictPrefixMax.go]; split <;> simp

theorem spm_snoc_dropLast (ts : List Nat) (t : Nat) :
    (strictPrefixMax (ts ++ [t])).dropLast <+: strictPrefixMax ts := by
  rw [spm_snoc]
  split
  · simp
  · split
    · simp
    · exact List.dropLast_prefix _

theorem spm_append_newmax (a : List Nat) (t : Nat) (r : List Nat) (h : ∀ m ∈ (strictPrefixMax a).getLast?, m < t) :
    strictPrefixMax (a ++ t :: r) = strictPrefixMax a ++ strictPrefixMax (t :: r) := by
  rw [spm_append]
  cases hm : (strictPrefixMax a).getLast? with
  | none => rfl
  | some m => simp only [strictPrefixMax, strictPrefixMax.go, if_pos (h m hm)]

theorem spm_eq_nil (ts : List Nat) (h : strictPrefixMax ts = []) : ts = [] := by
  cases ts with
  | nil => rfl
  | cons a r => simp [strictPrefixMax] at h

theorem spm_go_pairwise (m : Nat) (r : List Nat) :
    (∀ x ∈ strictPrefixMax.go m r, m < x) ∧ (strictPrefixMax.go m r).Pairwise (· < ·) := by
  induction r generalizing m with
  | nil => simp [strictPrefixMax.go]
  | cons u r ih =>
    simp only [strictPrefixMax.go]
    by_cases hu : u > m
    · rw [if_pos hu]
      obtain ⟨h1, h2⟩ := ih u
      exact ⟨List.forall_mem_cons.mpr ⟨hu, fun x hx => Nat.lt_trans hu (h1 x hx)⟩, List.pairwise_cons.mpr ⟨h1, h2⟩⟩
    · rw [if_neg hu]
      exact ih m

theorem spm_pairwise (ts : List Nat) : (strictPrefixMax ts).Pairwise (· < ·) := by
  cases ts with
  | nil => simp [strictPrefixMax]
  | cons t0 r =>
    simp only [strictPrefixMax, List.pairwise_cons]
    exact spm_go_pairwise t0 r

def table (e : Enc) : List Nat :=
  e.blocksRev.reverse.flatMap (·.timeTable) ++ e.timeRev.reverse

structure Inv (e : Enc) : Prop where
  empty : e.timeRev = [] → e.blocksRev = []
  len : e.timeLen = e.timeRev.length
  dirty : e.timeRev ≠ [] → e.hasNewData = true

theorem table_getLast (e : Enc) (hi : Inv e) : (table e).getLast? = e.timeRev.head? := by
  cases h : e.timeRev with
  | nil => simp [table, h, hi.empty h]
  | cons p r => simp [table, h]

theorem Inv.clean_empty {e : Enc} (hi : Inv e) (h : e.hasNewData = false) : e.timeRev = [] :=
  Decidable.not_not.mp (mt hi.dirty (by rw [h]; exact Bool.false_ne_true))

theorem finishBlock_dirty_table (c : Codec) (e : Enc) (h : e.hasNewData = true) :
    (finishBlock c e).blocksRev.reverse.flatMap (·.timeTable) = table e := by
  simp [finishBlock, h, table]

theorem finishBlock_clean (c : Codec) (e : Enc) (h : e.hasNewData = false) : finishBlock c e = e := by
  simp [finishBlock, h]

theorem finishBlock_hasNewData (c : Codec) (e : Enc) : (finishBlock c e).hasNewData = false := by
  unfold finishBlock
  cases h : e.hasNewData <;> simp [h]

/-- under `Inv`, `time_change` does one of three things: note the relation to the last timestamp / start a new entry in the
same block (the very first entry included) / close the block and start the next with the new entry -/
theorem timeChange_cases (c : Codec) (e : Enc) (t : Nat) (hi : Inv e) :
    (∃ p, e.timeRev.head? = some p ∧ t ≤ p ∧ timeChange c e t = { e with skipping := decide (t < p) }) ∨
    ((∀ p ∈ e.timeRev.head?, p < t) ∧
      (((e.timeRev = [] ∨ e.timeLen < c.blockMax) ∧ timeChange c e t =
          { e with timeRev := t :: e.timeRev, timeLen := e.timeLen + 1, hasNewData := true, skipping := false }) ∨
       (e.hasNewData = true ∧ c.blockMax ≤ e.timeLen ∧ timeChange c e t =
          { finishBlock c e with timeRev := [t], timeLen := 1, hasNewData := true, skipping := false }))) := by
  unfold timeChange
  cases htr : e.timeRev with
  | nil => right; simp [hi.len, htr]
  | cons p r =>
    simp only [List.head?_cons, Option.some.injEq, exists_eq_left', Option.mem_def, forall_eq']
    by_cases h1 : p = t
    · left; subst h1; simp
    · by_cases h2 : p > t
      · left; simp [h1, h2, Nat.le_of_lt h2]
      · right
        refine ⟨by omega, ?_⟩
        simp only [h1, h2, ↓reduceIte]
        by_cases h3 : e.timeLen ≥ c.blockMax
        · right; exact ⟨hi.dirty (by simp [htr]), h3, by simp [h3]⟩
        · left; exact ⟨Or.inr (by omega), by simp [h3, htr]⟩

theorem timeChange_inv (c : Codec) (e : Enc) (t : Nat) (hi : Inv e) : Inv (timeChange c e t) := by
  rcases timeChange_cases c e t hi with ⟨p, _, _, he⟩ | ⟨_, ⟨_, he⟩ | ⟨_, _, he⟩⟩ <;> rw [he]
  · exact ⟨hi.empty, hi.len, hi.dirty⟩
  · exact ⟨nofun, by simp [hi.len], fun _ => rfl⟩
  · exact ⟨nofun, rfl, fun _ => rfl⟩

theorem timeChange_table (c : Codec) {e : Enc} (t : Nat) (hi : Inv e) {pre : List Nat} (ht : table e = strictPrefixMax pre) :
    table (timeChange c e t) = strictPrefixMax (pre ++ [t]) := by
  rw [spm_snoc, ← ht, table_getLast e hi]
  rcases timeChange_cases c e t hi with ⟨p, hp, hle, he⟩ | ⟨hnew, hpr⟩
  · rw [he]; simp [hp, Nat.not_lt.mpr hle, table]
  · have hl : table (timeChange c e t) = table e ++ [t] := by
      rcases hpr with ⟨_, he⟩ | ⟨hd, _, he⟩ <;> rw [he]
      · simp [table]
      · simp [table, finishBlock_dirty_table c e hd]
    rw [hl]
    cases h : e.timeRev.head? with
    | none => simp [table, List.head?_eq_none_iff.mp h, hi.empty (List.head?_eq_none_iff.mp h)]
    | some m => simp [hnew m h]

/-- a value change fails before the first time step, is ignored while a backwards time step is skipped, and otherwise
replaces the encoder of the one signal -/
theorem valueChange_cases {e e' : Enc} {j : Nat} {f : Nat → SigEnc → Option SigEnc} (h : valueChange e j f = some e') :
    e.timeLen ≠ 0 ∧ ((e.skipping = true ∧ e' = e) ∨
      (e.skipping = false ∧ ∃ (hj : j < e.signals.size) (snew : SigEnc), f (e.timeLen - 1) e.signals[j] = some snew ∧
        e' = { e with signals := e.signals.set j snew, hasNewData := true })) := by
  unfold valueChange updSig at h
  split at h
  · cases h
  · refine ⟨‹_›, ?_⟩
    split at h
    · cases h; exact Or.inl ⟨‹_›, rfl⟩
    · split at h
      · split at h
        · cases h
        · cases h; exact Or.inr ⟨by simpa using ‹¬ e.skipping = true›, ‹_›, _, ‹_›, rfl⟩
      · cases h

theorem valueChange_frame {e e' : Enc} {id : Nat} {f : Nat → SigEnc → Option SigEnc}
    (h : valueChange e id f = some e') (hi : Inv e) : Inv e' ∧ table e' = table e := by
  rcases (valueChange_cases h).2 with ⟨_, rfl⟩ | ⟨_, _, _, _, rfl⟩
  · exact ⟨hi, rfl⟩
  · exact ⟨⟨hi.empty, hi.len, fun _ => rfl⟩, rfl⟩

theorem timesOf_append (a b : List Op) : timesOf (a ++ b) = timesOf a ++ timesOf b := by
  induction a with
  | nil => rfl
  | cons o r ih => cases o <;> simp [timesOf, ih]

theorem timesOf_append_time (ops : List Op) (t : Nat) : timesOf (ops ++ [.time t]) = timesOf ops ++ [t] := by
  rw [timesOf_append]; rfl

theorem stepOp_table {c : Codec} {e e' : Enc} {op : Op} {pre : List Nat} (h : stepOp c e op = some e') (hi : Inv e)
    (ht : table e = strictPrefixMax pre) : Inv e' ∧ table e' = strictPrefixMax (pre ++ timesOf [op]) := by
  have hv : Inv e' ∧ table e' = table e → Inv e' ∧ table e' = strictPrefixMax (pre ++ []) :=
    fun ⟨a, b⟩ => ⟨a, by rw [b, ht, List.append_nil]⟩
  cases op with
  | time t => cases h; exact ⟨timeChange_inv c e t hi, timeChange_table c t hi ht⟩
  | split => cases h
  | vcd id v r => exact hv (valueChange_frame (f := fun ti => addVcd ti v r) h hi)
  | raw id st v => exact hv (valueChange_frame (f := fun ti => addNBit ti v st) h hi)
  | real id le => exact hv (valueChange_frame (f := fun ti => addReal ti le) h hi)

theorem runOps_table {c : Codec} {ops : List Op} {e e' : Enc} {pre : List Nat} (hi : Inv e) (ht : table e = strictPrefixMax pre)
    (h : runOps c e ops = some e') : Inv e' ∧ table e' = strictPrefixMax (pre ++ timesOf ops) := by
  induction ops generalizing e pre with
  | nil => cases h; exact ⟨hi, by rw [ht]; simp [timesOf]⟩
  | cons op rest ih =>
    rw [runOps_cons, Option.bind_eq_some_iff] at h
    obtain ⟨e1, h1, h⟩ := h
    obtain ⟨hi1, ht1⟩ := stepOp_table h1 hi ht
    rw [← List.singleton_append, timesOf_append, ← List.append_assoc]
    exact ih hi1 ht1 h

theorem newEnc_inv (tps : List SigType) : Inv (newEnc tps) ∧ table (newEnc tps) = [] :=
  ⟨⟨fun _ => rfl, rfl, fun h => absurd rfl h⟩, rfl⟩

theorem finish_table (c : Codec) (e : Enc) (hi : Inv e) : (finish c e).2 = table e := by
  unfold finish
  simp only
  by_cases hd : e.hasNewData = true
  · exact finishBlock_dirty_table c e hd
  · have hd' : e.hasNewData = false := by simpa using hd
    rw [finishBlock_clean c e hd']
    simp [table, hi.clean_empty hd']

theorem finish_table_of_run {c : Codec} {tps : List SigType} {ops : List Op} {e : Enc}
    (h : runOps c (newEnc tps) ops = some e) : (finish c e).2 = strictPrefixMax (timesOf ops) := by
  obtain ⟨hi0, ht0⟩ := newEnc_inv tps
  obtain ⟨hi, ht⟩ := runOps_table (pre := []) hi0 (by rw [ht0]; rfl) h
  rw [finish_table c e hi, ht]; simp

theorem append_eq {c : Codec} {a b e : Enc} (h : append c a b = some e) :
    e = { finishBlock c a with blocksRev := (finishBlock c b).blocksRev ++ (finishBlock c a).blocksRev } := by
  unfold append at h
  simp only at h
  split at h
  · rename_i hb
    cases h; simp [List.reverse_eq_nil_iff.mp hb]
  · split at h
    · rename_i ha; cases h; simp [ha]
    · split at h <;> cases h
      simp [*]

theorem append_finish {c : Codec} {a b e : Enc} (h : append c a b = some e) :
    finishBlock c e = e ∧ e.blocksRev.reverse = (finishBlock c a).blocksRev.reverse ++ (finishBlock c b).blocksRev.reverse := by
  have := append_eq h
  subst this
  exact ⟨finishBlock_clean c _ (finishBlock_hasNewData c a), by simp⟩

theorem appendAll_cons (c : Codec) (a b : Enc) (r : List Enc) :
    appendAll c a (b :: r) = (append c a b).bind fun ab => appendAll c ab r := by
  simp only [appendAll]; cases append c a b <;> rfl

theorem append_table {c : Codec} {a b e : Enc} (h : append c a b = some e) : (finish c e).2 = (finish c a).2 ++ (finish c b).2 := by
  obtain ⟨h1, h2⟩ := append_finish h
  simp only [finish, h1, h2, List.flatMap_append]

theorem Writes.timesOf {types : Array SigType} {op : Op} {j : Nat} {v : Value} (h : Writes types op j v) : timesOf [op] = [] := by
  cases h <;> rfl

theorem spec_step_table {types : Array SigType} {s s' : St} {op : Op} {pre : List Nat}
    (ht : s.ttRev.reverse = strictPrefixMax pre) (h : Step types s op s') :
    s'.ttRev.reverse = strictPrefixMax (pre ++ timesOf [op]) := by
  cases h with
  | first t h => simp [timesOf, spm_snoc, ← ht, h]
  | newMax t h hlt => simp [timesOf, spm_snoc, ← ht, h, hlt]
  | noMax t h hle hn => have : ¬ _ < t := Nat.not_lt.mpr hle; simp [timesOf, spm_snoc, ← ht, h, this]
  | splitEmpty h => simpa [timesOf] using ht
  | split h => simpa [timesOf] using ht
  | skip hw => simpa [hw.timesOf] using ht
  | write hj hw => simpa [hw.timesOf] using ht

theorem spec_table {types : Array SigType} {ops : List Op} {s s' : St} {pre : List Nat}
    (h : foldSpec types ops s = some s') (ht : s.ttRev.reverse = strictPrefixMax pre) :
    s'.ttRev.reverse = strictPrefixMax (pre ++ timesOf ops) := by
  have := foldSpec_induct (types := types) (fun done s => s.ttRev.reverse = strictPrefixMax (pre ++ timesOf done))
    (fun h0 hs => by rw [timesOf_append, ← List.append_assoc]; exact spec_step_table h0 hs)
    [] (by simpa [timesOf] using ht) h
  simpa using this

theorem run_table {tps : List SigType} {ops : List Op} {tt : List Nat} {sigs : List (List (Nat × Value))}
    (h : run tps ops = some (tt, sigs)) : tt = strictPrefixMax (timesOf ops) := by
  obtain ⟨s, hs, rfl, -⟩ := run_fold h
  exact spec_table (pre := []) hs rfl

end Wellen.Spec
