import WellenModel.Proofs.Block
import WellenModel.Proofs.TimeTable
import WellenModel.Proofs.PushCanon
import WellenModel.Proofs.SplitFree
/-!
The store refines the abstract waveform: one simulation between the encoder and `Spec.step`, generic in the signal type (`Kind`)
and in the bound `B` on the time deltas (`SimB`, `seg_refineB`); several encoders appended (`Out`); and from blocks that carry the
specification's changes to the loaded signal (`load_canonB`). The four signal types are in `RefineAll.lean`.
-/
namespace Wellen.Store
open Wellen.Bits Wellen.Spec

def offOf (l : List BInfo) : Nat := (l.map (·.1.tt.length)).sum

/-- the changes of all blocks, time indices made absolute (block k shifted by the lengths of the earlier time tables) -/
def absAll : List BInfo → Nat → List Change
  | [], _ => []
  | p :: r, off => absolutise off p.2.2 ++ absAll r (off + p.1.tt.length)

theorem offOf_append (a b : List BInfo) : offOf (a ++ b) = offOf a + offOf b := by
  simp [offOf, List.sum_append]

theorem absAll_append (l1 l2 : List BInfo) (off : Nat) : absAll (l1 ++ l2) off = absAll l1 off ++ absAll l2 (off + offOf l1) := by
  induction l1 generalizing off with
  | nil => simp [absAll, offOf]
  | cons p r ih =>
    simp only [List.cons_append, absAll, ih, List.append_assoc]
    have : off + p.1.tt.length + offOf r = off + offOf (p :: r) := by
      simp only [offOf, List.map_cons, List.sum_cons]; omega
    rw [this]

theorem absolutise_append (a b : List Change) (p : Nat) :
    absolutise p (a ++ b) = absolutise p a ++ absolutise (p + (a.map (·.1)).sum) b := by
  induction a generalizing p with
  | nil => simp [absolutise]
  | cons x a ih =>
    simp only [List.cons_append, absolutise, ih, List.map_cons, List.sum_cons]
    congr 3
    omega

theorem finishSignal_fst (c : Codec) (s : SigEnc) : (finishSignal c s).1 = { s with prevTimeIdx := 0, chunks := [] } := by
  simp only [finishSignal, apply_ite Prod.fst, ite_self]

def descOf (e : Enc) : BlockDesc := { signals := e.signals, tt := e.timeRev.reverse, t0 := e.timeRev.reverse.headD 0 }

theorem finishBlock_dirty (c : Codec) (e : Enc) (h : e.hasNewData = true) :
    finishBlock c e = { e with signals := (finishSignals c e.signals).1, timeRev := [e.timeRev.headD 0], timeLen := 1,
                               blocksRev := mkBlock c (descOf e) :: e.blocksRev, hasNewData := false } := by
  simp [finishBlock, h, mkBlock, descOf]

/-- how one signal type stores its changes -/
structure Kind where
  tpe : SigType
  /-- one chunk of the stream -/
  enc1 : Change → List Nat
  /-- what the stream decoder needs of a chunk -/
  fit : States × List Nat → Prop
  /-- the entry the loader pushes for a chunk -/
  entry : States → Change → List Nat
  /-- kind and payload of a value of the specification -/
  valEnc : Value → States × List Nat
  /-- well-formed values of this type -/
  valOK : Value → Prop
  chunk_ne : ∀ x, enc1 x ≠ []
  /-- the stream loader of the type decodes what `enc1` lays out; `2 ^ 28` is the bound on a time delta that every loader accepts: a
  one-bit chunk is `delta << 4 | value` read into a `u32` (vectors shift by 2 only: `chunkHeader_lt`, `2 ^ 30`) -/
  load : ∀ (sigS : States) (cs : List Change), (∀ x ∈ cs, fit x.2 ∧ x.1 < 2 ^ 28) → ∀ (fuel off : Nat) (a : Acc), cs.length < fuel →
    loaderOf tpe sigS fuel ((cs.map enc1).flatten) off a = some (replayK (entry sigS) cs off a).2
  inj : ∀ (sigS : States) (k1 k2 : Nat) (v1 v2 : Value), valOK v1 → valOK v2 →
    (valEnc v1).1.toNat ≤ sigS.toNat → (valEnc v2).1.toNat ≤ sigS.toNat →
    entry sigS (k1, valEnc v1) = entry sigS (k2, valEnc v2) → v1 = v2
  entry_time : ∀ (sigS : States) (k1 k2 : Nat) (p : States × List Nat), entry sigS (k1, p) = entry sigS (k2, p)

def encK (K : Kind) (cs : List Change) : List Nat := (cs.map K.enc1).flatten

theorem encK_snoc (K : Kind) (cs : List Change) (x : Change) : encK K (cs ++ [x]) = encK K cs ++ K.enc1 x := by
  simp [encK]

def SigInBlockK (K : Kind) (i : Nat) (p : BInfo) : Prop :=
  p.1.signals.toList[i]? = some p.2.1 ∧ p.2.1.dataBytes = encK K p.2.2 ∧
  (∀ x ∈ p.2.2, K.fit x.2 ∧ x.1 < 2 ^ 28) ∧
  (∀ x ∈ p.2.2, x.2.1.toNat ≤ p.2.1.maxStates.toNat)

def encVK (K : Kind) (x : Nat × Value) : Change := (x.1, K.valEnc x.2)

/-- field for field `SimB (2 ^ 28) K`, the simulation relation at the bound every stream loader accepts; the proofs use `SimB` -/
structure SimK (K : Kind) (c : Codec) (i : Nat) (base : Nat) (pre : List Change) (e : Enc) (s : Spec.St) (l : List BInfo) (cs : List Change) : Prop where
  inv : Inv e
  wf : s.ttLen = s.ttRev.length
  skip : e.skipping = s.skipping ∨ (e.timeRev = [] ∧ s.needNewMax = true)
  head : e.timeRev.head? = s.ttRev.head? ∨ (e.timeRev = [] ∧ s.needNewMax = true)
  len : s.ttLen = base + offOf l + e.timeLen
  cap : e.timeLen ≤ c.blockMax
  blocks : e.blocksRev.reverse = l.map (fun p => mkBlock c p.1)
  inblk : ∀ p ∈ l, SigInBlockK K i p
  sig : ∃ si, e.signals.toList[i]? = some si ∧ si.tpe = K.tpe ∧ si.dataBytes = encK K cs ∧
        si.prevTimeIdx = (cs.map (·.1)).sum ∧ si.prevTimeIdx ≤ e.timeLen - 1 ∧
        (∀ x ∈ cs, x.2.1.toNat ≤ si.maxStates.toNat)
  fits : ∀ x ∈ cs, K.fit x.2 ∧ x.1 < 2 ^ 28
  clean : e.hasNewData = false → cs = []
  sem : pre ++ absAll l base ++ absolutise (base + offOf l) cs = ((s.changesRev.getD i []).reverse).map (encVK K)
  vals : ∀ x ∈ s.changesRev.getD i [], K.valOK x.2

/-- `SigInBlockK`, the bound on the time deltas left open -/
def SigInBlockB (B : Nat) (K : Kind) (i : Nat) (p : BInfo) : Prop :=
  p.1.signals.toList[i]? = some p.2.1 ∧ p.2.1.dataBytes = encK K p.2.2 ∧
  (∀ x ∈ p.2.2, K.fit x.2 ∧ x.1 < B) ∧
  (∀ x ∈ p.2.2, x.2.1.toNat ≤ p.2.1.maxStates.toNat)

/-- the simulation relation between one encoder — started when the specification had recorded `base` time steps and the changes
`pre` of signal `i` — and the specification; `l`: the closed blocks, `cs`: the changes of the open block. `B` bounds the time
deltas: the simulation only needs `c.blockMax ≤ B`, which number a stream loader accepts is the loader's business.
`skip` and `head` allow for a fresh encoder behind a split (nothing recorded by it yet, the specification waits for a new maximum). -/
structure SimB (B : Nat) (K : Kind) (c : Codec) (i : Nat) (base : Nat) (pre : List Change) (e : Enc) (s : Spec.St) (l : List BInfo) (cs : List Change) : Prop where
  inv : Inv e
  wf : s.ttLen = s.ttRev.length
  skip : e.skipping = s.skipping ∨ (e.timeRev = [] ∧ s.needNewMax = true)
  head : e.timeRev.head? = s.ttRev.head? ∨ (e.timeRev = [] ∧ s.needNewMax = true)
  len : s.ttLen = base + offOf l + e.timeLen
  cap : e.timeLen ≤ c.blockMax
  blocks : e.blocksRev.reverse = l.map (fun p => mkBlock c p.1)
  inblk : ∀ p ∈ l, SigInBlockB B K i p
  sig : ∃ si, e.signals.toList[i]? = some si ∧ si.tpe = K.tpe ∧ si.dataBytes = encK K cs ∧
        si.prevTimeIdx = (cs.map (·.1)).sum ∧ si.prevTimeIdx ≤ e.timeLen - 1 ∧
        (∀ x ∈ cs, x.2.1.toNat ≤ si.maxStates.toNat)
  fits : ∀ x ∈ cs, K.fit x.2 ∧ x.1 < B
  clean : e.hasNewData = false → cs = []
  sem : pre ++ absAll l base ++ absolutise (base + offOf l) cs = ((s.changesRev.getD i []).reverse).map (encVK K)
  vals : ∀ x ∈ s.changesRev.getD i [], K.valOK x.2

def specChunks (K : Kind) (i : Nat) (s : Spec.St) : List Change := ((s.changesRev.getD i []).reverse).map (encVK K)

theorem specChunks_init (K : Kind) (i : Nat) (tps : List SigType) : specChunks K i (specInit tps) = [] := by
  rw [specChunks, specInit_getD]; rfl

theorem SimB.init {B : Nat} {K : Kind} {c : Codec} {i : Nat} {tps : List SigType} (hi : tps[i]? = some K.tpe) {s : Spec.St}
    (hwf : s.ttLen = s.ttRev.length) (hnm : s.ttRev = [] ∨ s.needNewMax = true) (hsk : s.ttRev = [] → s.skipping = false)
    (hvals : ∀ x ∈ s.changesRev.getD i [], K.valOK x.2) :
    SimB B K c i s.ttLen (specChunks K i s) (newEnc tps) s [] [] := by
  exact {
    inv := (newEnc_inv tps).1, wf := hwf
    skip := hnm.elim (fun h => .inl (by rw [hsk h]; rfl)) (fun h => .inr ⟨rfl, h⟩)
    head := hnm.elim (fun h => .inl (by simp [newEnc, h])) (fun h => .inr ⟨rfl, h⟩)
    len := rfl, cap := Nat.zero_le _, blocks := rfl, inblk := nofun, fits := nofun, clean := fun _ => rfl
    sig := ⟨{ tpe := K.tpe }, by simp [newEnc, List.getElem?_map, hi], rfl, rfl, rfl, Nat.zero_le _, nofun⟩
    sem := (List.append_nil _).trans (List.append_nil _), vals := hvals }

/-- closing the open block (`finish_block`): it joins the closed ones with the changes recorded in it, nothing else changes -/
theorem SimB.close {B : Nat} {K : Kind} {c : Codec} {i base : Nat} {pre : List Change} {e : Enc} {s : Spec.St} {l : List BInfo}
    {cs : List Change} (h : SimB B K c i base pre e s l cs) :
    ∃ si, e.signals.toList[i]? = some si ∧ si.tpe = K.tpe ∧
      (mkBlock c (descOf e) :: e.blocksRev).reverse = (l ++ [(descOf e, si, cs)]).map (fun p => mkBlock c p.1) ∧
      (∀ p ∈ l ++ [(descOf e, si, cs)], SigInBlockB B K i p) ∧
      pre ++ absAll (l ++ [(descOf e, si, cs)]) base = specChunks K i s ∧
      offOf (l ++ [(descOf e, si, cs)]) = offOf l + e.timeLen := by
  obtain ⟨si, hsi, htpe, hdata, -, -, hkind⟩ := h.sig
  refine ⟨si, hsi, htpe, ?_, List.forall_mem_append.mpr ⟨h.inblk, List.forall_mem_singleton.mpr ⟨hsi, hdata, h.fits, hkind⟩⟩, ?_, ?_⟩
  · rw [List.reverse_cons, h.blocks, List.map_append]; rfl
  · rw [absAll_append]
    simp only [absAll, List.append_nil, ← List.append_assoc]
    exact h.sem
  · rw [offOf_append, h.inv.len, ← List.length_reverse]; exact congrArg _ (Nat.add_zero _)

theorem SimB.time {B : Nat} {K : Kind} {c : Codec} {i base : Nat} {pre : List Change} {types : Array SigType} {e : Enc} {s s' : Spec.St}
    {l : List BInfo} {cs : List Change} {t : Nat} (hbm : 1 ≤ c.blockMax) (h : SimB B K c i base pre e s l cs)
    (hs : Step types s (.time t) s') :
    ∃ l' cs', SimB B K c i base pre (timeChange c e t) s' l' cs' := by
  have hinv := timeChange_inv c e t h.inv
  rcases timeChange_cases c e t h.inv with ⟨p, hp, hle, he⟩ | ⟨hnew, hpr⟩
  · have hhd : e.timeRev.head? = s.ttRev.head? := h.head.resolve_right fun hh => by rw [hh.1] at hp; cases hp
    cases hs.time_le (hhd ▸ hp) hle
    rw [he] at hinv ⊢
    exact ⟨l, cs, { h with inv := hinv, skip := .inl rfl, head := .inl hhd }⟩
  · cases hs.time_gt h.wf (h.head.elim (fun hh => .inl (hh ▸ hnew)) (fun hh => .inr hh.2))
    rcases hpr with ⟨hroom, he⟩ | ⟨hdirty, hge, he⟩
    · rw [he] at hinv ⊢
      obtain ⟨si, hsi, htpe, hdata, hprev, hple, hkind⟩ := h.sig
      exact ⟨l, cs, { h with
        inv := hinv, wf := congrArg (· + 1) h.wf, skip := .inl rfl, head := .inl rfl, len := congrArg (· + 1) h.len, clean := nofun
        cap := hroom.elim (fun h0 => by rw [h.inv.len, h0]; exact hbm) id
        sig := ⟨si, hsi, htpe, hdata, hprev, Nat.le_trans hple (Nat.sub_le _ _), hkind⟩ }⟩
    · -- roll-over: the open block is closed, the next starts with `t` at index 0
      rw [he, finishBlock_dirty c e hdirty] at hinv ⊢
      obtain ⟨si, hsi, htpe, hblocks, hin, hsem, hoff⟩ := h.close
      exact ⟨l ++ [(descOf e, si, cs)], [], {
        inv := hinv, wf := congrArg (· + 1) h.wf, skip := .inl rfl, head := .inl rfl
        len := by rw [hoff, ← Nat.add_assoc, ← h.len]
        cap := hbm, blocks := hblocks, inblk := hin, fits := nofun, clean := fun _ => rfl
        sig := ⟨{ si with prevTimeIdx := 0, chunks := [] },
          by simp only [(finishSignals_layout c e.signals).1, List.getElem?_map, hsi, Option.map_some, finishSignal_fst],
          htpe, rfl, rfl, Nat.zero_le _, nofun⟩
        sem := (List.append_nil _).trans hsem, vals := h.vals }⟩

/-- what a write to signal `i` must do so that encoder and specification stay in step: append the chunk of the value -/
def Agrees (K : Kind) (ti : Nat) (si snew : SigEnc) (v : Value) : Prop :=
  K.valOK v ∧ K.fit (K.valEnc v) ∧ snew.chunks = K.enc1 (ti - si.prevTimeIdx, K.valEnc v) :: si.chunks ∧
  snew.prevTimeIdx = ti ∧ snew.tpe = si.tpe ∧ si.maxStates.toNat ≤ snew.maxStates.toNat ∧
  (K.valEnc v).1.toNat ≤ snew.maxStates.toNat

theorem SimB.value {B : Nat} {K : Kind} {c : Codec} {i base : Nat} {pre : List Change} (hbmax : c.blockMax ≤ B)
    {e e' : Enc} {s s' : Spec.St} {l : List BInfo} {cs : List Change}
    (h : SimB B K c i base pre e s l cs) {j : Nat} {f : Nat → SigEnc → Option SigEnc}
    (he : valueChange e j f = some e') {v : Value} (hs : (if s.skipping = true then some s else record s j v) = some s')
    (hag : j = i → ∀ si snew, si.tpe = K.tpe → f (e.timeLen - 1) si = some snew → Agrees K (e.timeLen - 1) si snew v) :
    ∃ cs', SimB B K c i base pre e' s' l cs' := by
  obtain ⟨hl0, hcase⟩ := valueChange_cases he
  have hne : e.timeRev ≠ [] := fun h0 => hl0 (by rw [h.inv.len, h0]; rfl)
  have hskeq : e.skipping = s.skipping := h.skip.resolve_right fun hh => hne hh.1
  rcases hcase with ⟨hsk, rfl⟩ | ⟨hsk, hj, snew, hadd, rfl⟩
  · rw [← hskeq, hsk, if_pos rfl] at hs; cases hs; exact ⟨cs, h⟩
  · rw [← hskeq, hsk, if_neg Bool.false_ne_true] at hs
    obtain ⟨hjs, rfl⟩ := record_eq_some.mp hs
    obtain ⟨si, hsi, htpe, hdata, hprev, hple, hkind⟩ := h.sig
    have hinv' : Inv { e with signals := e.signals.set j snew, hasNewData := true } := ⟨h.inv.empty, h.inv.len, fun _ => rfl⟩
    have hgetD := (Array.getElem_eq_getD (h := hjs) []).symm
    by_cases hji : j = i
    · subst hji
      rw [Array.getElem?_toList, Array.getElem?_eq_getElem hj] at hsi
      cases hsi
      obtain ⟨hvok, hvfit, hch, hpn, htn, hmx1, hmx2⟩ := hag rfl _ snew htpe hadd
      refine ⟨cs ++ [(e.timeLen - 1 - e.signals[j].prevTimeIdx, K.valEnc v)], { h with
        inv := hinv', skip := .inl hskeq, clean := nofun
        sig := ⟨snew, by rw [getElem?_toList_set, if_pos rfl], htn.trans htpe, ?_, ?_, Nat.le_of_eq hpn,
          List.forall_mem_append.mpr ⟨fun x hx => Nat.le_trans (hkind x hx) hmx1, List.forall_mem_singleton.mpr hmx2⟩⟩
        -- the delta is below the block size
        fits := List.forall_mem_append.mpr ⟨h.fits, List.forall_mem_singleton.mpr ⟨hvfit,
          Nat.lt_of_le_of_lt (Nat.sub_le _ _) (Nat.lt_of_lt_of_le (Nat.sub_one_lt hl0) (Nat.le_trans h.cap hbmax))⟩⟩
        sem := ?_
        vals := ?_ }⟩
      · rw [dataBytes_cons hch, encK_snoc]; exact congrArg (· ++ _) hdata
      · rw [hpn, List.map_append, List.sum_append, ← hprev]
        simp only [List.map_cons, List.map_nil, List.sum_cons, List.sum_nil, Nat.add_zero]
        exact (Nat.add_sub_cancel' hple).symm
      · rw [getD_set, if_pos rfl, ← hgetD, absolutise_append, List.reverse_cons, List.map_append, ← h.sem]
        have : base + offOf l + (cs.map (·.1)).sum + (e.timeLen - 1 - e.signals[j].prevTimeIdx) = s.ttLen - 1 := by
          rw [h.len, Nat.add_assoc _ (cs.map (·.1)).sum, ← hprev, Nat.add_sub_cancel' hple,
            Nat.add_sub_assoc (Nat.one_le_iff_ne_zero.mpr hl0)]
        simp only [absolutise, List.map_cons, List.map_nil, encVK, this, List.append_assoc]
      · rw [getD_set, if_pos rfl, ← hgetD]
        exact List.forall_mem_cons.mpr ⟨hvok, h.vals⟩
    · exact ⟨cs, { h with
        inv := hinv', skip := .inl hskeq, clean := nofun
        sig := ⟨si, by rw [getElem?_toList_set, if_neg hji]; exact hsi, htpe, hdata, hprev, hple, hkind⟩
        sem := by rw [getD_set, if_neg hji]; exact h.sem
        vals := by rw [getD_set, if_neg hji]; exact h.vals }⟩

/-- the two write paths of the VCD loader agree with the specification on every value of this signal type -/
structure KindOK (K : Kind) : Prop where
  vcd : ∀ ti value realLe si snew v, si.tpe = K.tpe → (∀ r, realLe = some r → r.length = 8) →
    addVcd ti value realLe si = some snew → vcdValue K.tpe value realLe = some v → Agrees K ti si snew v
  real : ∀ ti le si snew, si.tpe = K.tpe → K.tpe = .real → le.length = 8 → addReal ti le si = some snew →
    Agrees K ti si snew (.real le)
  raw : ∀ ti st bytes si snew v, si.tpe = K.tpe → addNBit ti bytes st si = some snew → rawValue K.tpe st bytes = some v →
    Agrees K ti si snew v

/-- what `Encoder` does to the signal's encoder for a value operation -/
def writerOf : Op → Nat → SigEnc → Option SigEnc
  | .vcd _ v r, ti => addVcd ti v r
  | .raw _ st b, ti => addNBit ti b st
  | .real _ le, ti => addReal ti le
  | _, _ => fun _ => none

theorem _root_.Wellen.Spec.Writes.stepOp {types : Array SigType} {op : Op} {j : Nat} {v : Value} (hw : Writes types op j v) (c : Codec) (e : Enc) :
    stepOp c e op = valueChange e j (writerOf op) := by cases hw <;> rfl

theorem KindOK.agree {K : Kind} (hK : KindOK K) {types : Array SigType} {i : Nat} (hti : types[i]? = some K.tpe) {op : Op} {v : Value}
    (hw : Writes types op i v) (h8 : ∀ j v r, op = .vcd j v (some r) → r.length = 8) (ti : Nat) (si snew : SigEnc)
    (hst : si.tpe = K.tpe) (hadd : writerOf op ti si = some snew) : Agrees K ti si snew v := by
  cases hw with
  | vcd h1 h2 => rw [hti] at h1; cases h1; exact hK.vcd ti _ _ si snew v hst (fun r hr => h8 _ _ r (by rw [hr])) hadd h2
  | raw h1 h2 => rw [hti] at h1; cases h1; exact hK.raw ti _ _ si snew v hst hadd h2
  | real h1 h2 => rw [hti] at h1; exact hK.real ti _ si snew hst (Option.some.inj h1) h2 hadd

theorem SimB.run {B : Nat} {K : Kind} {c : Codec} {i base : Nat} {pre : List Change} (hbm : 1 ≤ c.blockMax) (hbmax : c.blockMax ≤ B)
    {types : Array SigType} {ops : List Op} {e e' : Enc} {s s' : Spec.St} {l : List BInfo} {cs : List Change}
    (h : SimB B K c i base pre e s l cs)
    (hag : ∀ op ∈ ops, ∀ v, Writes types op i v → ∀ ti si snew, si.tpe = K.tpe → writerOf op ti si = some snew → Agrees K ti si snew v)
    (he : runOps c e ops = some e') (hs : foldSpec types ops s = some s') : ∃ l' cs', SimB B K c i base pre e' s' l' cs' := by
  induction ops generalizing e s l cs with
  | nil => cases he; cases hs; exact ⟨l, cs, h⟩
  | cons op rest ih =>
    rw [runOps_cons, Option.bind_eq_some_iff] at he
    rw [foldSpec_cons, Option.bind_eq_some_iff] at hs
    obtain ⟨e1, he1, he⟩ := he
    obtain ⟨s1, hs1, hs⟩ := hs
    suffices hstep : ∃ l1 cs1, SimB B K c i base pre e1 s1 l1 cs1 by
      obtain ⟨l1, cs1, h1⟩ := hstep
      exact ih h1 (fun o ho => hag o (List.mem_cons_of_mem _ ho)) he hs
    rcases (Step.of_step hs1).classify with ⟨t, rfl⟩ | rfl | ⟨j, v, hw, hrec⟩
    · cases he1; exact SimB.time hbm h (.of_step hs1)
    · cases he1
    · rw [hw.stepOp] at he1
      obtain ⟨cs1, h1⟩ := SimB.value hbmax h he1 hrec (fun hji => by subst hji; exact hag op (List.mem_cons_self ..) v hw _)
      exact ⟨l, cs1, h1⟩

theorem spec_skip_fold {types : Array SigType} {ops : List Op} {s s' : Spec.St} (h : foldSpec types ops s = some s')
    (hi : s.ttRev = [] → s.skipping = false) : s'.ttRev = [] → s'.skipping = false :=
  foldSpec_induct (types := types) (fun _ s => s.ttRev = [] → s.skipping = false)
    (fun h0 hs => by
      cases hs with
      | first | newMax => exact fun _ => rfl
      | noMax _ h => exact fun h' => absurd (h.symm.trans h') (List.cons_ne_nil _ _)
      | splitEmpty | split | skip | write => exact h0) [] hi h

/-- **one segment** (one encoder, started when the specification has recorded `s.ttLen` time steps): its closed blocks carry
exactly the changes the specification records during the segment, at time indices that continue the specification's count -/
theorem seg_refineB (B : Nat) (K : Kind) {c : Codec} {i : Nat} (hbm : 1 ≤ c.blockMax) (hbmax : c.blockMax ≤ B)
    {tps : List SigType} (hti : tps[i]? = some K.tpe) {s : Spec.St} (hwf : s.ttLen = s.ttRev.length)
    (hnm : s.ttRev = [] ∨ s.needNewMax = true) (hsk : s.ttRev = [] → s.skipping = false)
    (hvals : ∀ x ∈ s.changesRev.getD i [], K.valOK x.2) {seg : List Op}
    (hag : ∀ op ∈ seg, ∀ v, Writes tps.toArray op i v → ∀ ti si snew, si.tpe = K.tpe → writerOf op ti si = some snew → Agrees K ti si snew v)
    {e : Enc} (he : runOps c (newEnc tps) seg = some e) {s' : Spec.St} (hs : foldSpec tps.toArray seg s = some s') :
    ∃ lf : List BInfo, (finishBlock c e).blocksRev.reverse = lf.map (fun p => mkBlock c p.1) ∧
      (∀ p ∈ lf, SigInBlockB B K i p) ∧ specChunks K i s ++ absAll lf s.ttLen = specChunks K i s' ∧
      s'.ttLen = s.ttLen + offOf lf ∧ s'.ttLen = s'.ttRev.length ∧ (∀ x ∈ s'.changesRev.getD i [], K.valOK x.2) := by
  obtain ⟨l, cs, h⟩ := SimB.run hbm hbmax (SimB.init (B := B) hti hwf hnm hsk hvals) hag he hs
  by_cases hd : e.hasNewData = true
  · obtain ⟨si, -, -, hblocks, hin, hsem, hoff⟩ := h.close
    exact ⟨l ++ [(descOf e, si, cs)], by rw [finishBlock_dirty c e hd]; exact hblocks, hin, hsem,
      by rw [hoff, ← Nat.add_assoc]; exact h.len, h.wf, h.vals⟩
  · have hd' : e.hasNewData = false := by simpa using hd
    rw [finishBlock_clean c e hd']
    exact ⟨l, h.blocks, h.inblk, by have := h.sem; rwa [h.clean hd', absolutise, List.append_nil] at this,
      by rw [h.len, h.inv.len, h.inv.clean_empty hd']; rfl, h.wf, h.vals⟩

/-- one segment at the bound every stream loader accepts, for a signal type whose write paths agree with the specification -/
theorem seg_refine (K : Kind) (hK : KindOK K) (c : Codec) (i : Nat) (hbm : 1 ≤ c.blockMax) (hbmax : c.blockMax ≤ 2 ^ 28)
    (tps : List SigType) (hti : tps[i]? = some K.tpe) (s : Spec.St) (hwf : s.ttLen = s.ttRev.length)
    (hnm : s.ttRev = [] ∨ s.needNewMax = true) (hsk : s.ttRev = [] → s.skipping = false)
    (hvals : ∀ x ∈ s.changesRev.getD i [], K.valOK x.2) (seg : List Op)
    (hreal : ∀ op ∈ seg, ∀ j v r, op = .vcd j v (some r) → r.length = 8)
    (e : Enc) (he : runOps c (newEnc tps) seg = some e) (s' : Spec.St) (hs : foldSpec tps.toArray seg s = some s') :
    ∃ lf : List BInfo, (finishBlock c e).blocksRev.reverse = lf.map (fun p => mkBlock c p.1) ∧ (finishBlock c e).hasNewData = false ∧
      (∀ p ∈ lf, SigInBlockK K i p) ∧ specChunks K i s ++ absAll lf s.ttLen = specChunks K i s' ∧
      s'.ttLen = s.ttLen + offOf lf ∧ s'.ttLen = s'.ttRev.length ∧ (∀ x ∈ s'.changesRev.getD i [], K.valOK x.2) :=
  have ⟨lf, h1, h2⟩ := seg_refineB (2 ^ 28) K hbm hbmax hti hwf hnm hsk hvals
    (fun op hop _ hw => hK.agree (by simpa using hti) hw (hreal op hop)) he hs
  ⟨lf, h1, finishBlock_hasNewData c e, h2⟩

/-- what is known about the encoder the segments so far were appended to -/
structure Out (K : Kind) (c : Codec) (i : Nat) (a : Enc) (s : Spec.St) (L : List BInfo) : Prop where
  blocks : (finishBlock c a).blocksRev.reverse = L.map (fun p => mkBlock c p.1)
  clean : (finishBlock c a).hasNewData = false
  inblk : ∀ p ∈ L, SigInBlockK K i p
  sem : absAll L 0 = specChunks K i s
  len : s.ttLen = offOf L
  wf : s.ttLen = s.ttRev.length
  vals : ∀ x ∈ s.changesRev.getD i [], K.valOK x.2
  skip : s.ttRev = [] → s.skipping = false

theorem out_step (K : Kind) (hK : KindOK K) (c : Codec) (i : Nat) (hbm : 1 ≤ c.blockMax) (hbmax : c.blockMax ≤ 2 ^ 28)
    (tps : List SigType) (hti : tps[i]? = some K.tpe) (a b a1 : Enc) (s s2 : Spec.St) (L : List BInfo) (seg : List Op)
    (ho : Out K c i a s L) (hreal : ∀ op ∈ seg, ∀ j v r, op = .vcd j v (some r) → r.length = 8)
    (hb : runOps c (newEnc tps) seg = some b) (hap : append c a b = some a1)
    (hs : foldSpec tps.toArray (.split :: seg) s = some s2) :
    ∃ L', Out K c i a1 s2 L' := by
  rw [foldSpec_cons, Option.bind_eq_some_iff] at hs
  obtain ⟨s1, hs1, hs⟩ := hs
  -- the split changes nothing but the mark; the new segment starts there
  obtain ⟨e1, e2, e3, e4, hnm⟩ := (Step.of_step hs1).split_cases
  have hsk1 : s1.ttRev = [] → s1.skipping = false := by rw [e1, e3]; exact ho.skip
  obtain ⟨lfb, hbl, -, hbin, hbsem, hblen, hbwf, hbvals⟩ := seg_refine K hK c i hbm hbmax tps hti s1 (by rw [e2, e1]; exact ho.wf) hnm
    hsk1 (by rw [e4]; exact ho.vals) seg hreal b hb s2 hs
  obtain ⟨hfin, hblocks⟩ := append_finish hap
  have hchunks1 : specChunks K i s1 = specChunks K i s := by simp [specChunks, e4]
  refine ⟨L ++ lfb, ?_, finishBlock_hasNewData c a1, List.forall_mem_append.mpr ⟨ho.inblk, hbin⟩, ?_, ?_, hbwf, hbvals,
    spec_skip_fold hs hsk1⟩
  · rw [hfin, hblocks, ho.blocks, hbl, List.map_append]
  · rw [absAll_append, ho.sem, Nat.zero_add, ← ho.len, ← e2, ← hchunks1]
    exact hbsem
  · rw [offOf_append, hblen, e2, ho.len]

theorem out_fold (K : Kind) (hK : KindOK K) (c : Codec) (i : Nat) (hbm : 1 ≤ c.blockMax) (hbmax : c.blockMax ≤ 2 ^ 28)
    (tps : List SigType) (hti : tps[i]? = some K.tpe) (segs : List (List Op)) :
    ∀ (a : Enc) (s : Spec.St) (L : List BInfo) (encs : List Enc), Out K c i a s L →
      (∀ op ∈ joinSegs segs, ∀ j v r, op = .vcd j v (some r) → r.length = 8) →
      segs.mapM (runOps c (newEnc tps)) = some encs →
      ∀ a' s', appendAll c a encs = some a' → foldSpec tps.toArray (joinSegs segs) s = some s' → ∃ L', Out K c i a' s' L' := by
  induction segs with
  | nil =>
    intro a s L encs ho _ hm a' s' ha hs
    cases hm; cases ha; cases hs
    exact ⟨L, ho⟩
  | cons seg rest ih =>
    intro a s L encs ho hreal hm a' s' ha hs
    obtain ⟨b, encs', hb, hr, rfl⟩ := mapM_cons_eq_some.mp hm
    rw [appendAll_cons, Option.bind_eq_some_iff] at ha
    obtain ⟨a1, hap, ha⟩ := ha
    have hj : joinSegs (seg :: rest) = (.split :: seg) ++ joinSegs rest := rfl
    rw [hj, foldSpec_append, Option.bind_eq_some_iff] at hs
    obtain ⟨s2, hs2, hs⟩ := hs
    obtain ⟨hreal1, hreal2⟩ := List.forall_mem_append.mp (hj ▸ hreal)
    obtain ⟨L1, ho1⟩ := out_step K hK c i hbm hbmax tps hti a b a1 s s2 L seg ho (List.forall_mem_cons.mp hreal1).2 hb hap hs2
    exact ih a1 s2 L1 encs' ho1 hreal2 hr a' s' ha hs

theorem mem_absolutise {cs : List Change} {p : Nat} {y : Change} (hy : y ∈ absolutise p cs) : ∃ x ∈ cs, y.2 = x.2 := by
  induction cs generalizing p with
  | nil => cases hy
  | cons x r ih =>
    rcases List.mem_cons.mp hy with rfl | hy
    · exact ⟨x, List.mem_cons_self .., rfl⟩
    · obtain ⟨z, hz, e⟩ := ih hy
      exact ⟨z, List.mem_cons_of_mem _ hz, e⟩

theorem mem_absAll {l : List BInfo} {off : Nat} {y : Change} (hy : y ∈ absAll l off) : ∃ p ∈ l, ∃ x ∈ p.2.2, y.2 = x.2 := by
  induction l generalizing off with
  | nil => cases hy
  | cons q r ih =>
    rcases List.mem_append.mp hy with hy | hy
    · obtain ⟨x, hx, e⟩ := mem_absolutise hy
      exact ⟨q, List.mem_cons_self .., x, hx, e⟩
    · obtain ⟨p, hp, h⟩ := ih hy
      exact ⟨p, List.mem_cons_of_mem _ hp, h⟩

theorem payload_le_data (c : Codec) {d : BlockDesc} {i : Nat} {s : SigEnc} (hs : d.signals.toList[i]? = some s) :
    s.dataBytes.length ≤ (mkBlock c d).data.length := by
  by_cases hne : s.dataBytes = []
  · simp [hne]
  · obtain ⟨off, len, m, _, hsl, _⟩ := block_with_data c hs hne
    have := congrArg List.length hsl
    rw [List.length_take, List.length_drop, List.length_append] at this
    omega

theorem joinAll_ge {l : List States} {x : States} (hx : x ∈ l) : x.toNat ≤ (joinAll l).toNat := by
  cases l with
  | nil => cases hx
  | cons a r =>
    obtain ⟨h1, h2⟩ := foldl_join_ge r a
    exact (List.mem_cons.mp hx).elim (fun e => e ▸ h1) (h2 x)

theorem mem_metasOf (c : Codec) {l : List BInfo} {p : BInfo} (hp : p ∈ l) (hne : p.2.2 ≠ []) (off : Nat) :
    p.2.1.maxStates ∈ (metasOf c l off).map (fun b => b.2.2.1) := by
  induction l generalizing off with
  | nil => cases hp
  | cons q r ih =>
    simp only [metasOf, List.map_append, List.mem_append]
    rcases List.mem_cons.mp hp with rfl | hp
    · left; simp [hne]
    · exact .inr (ih hp _)

theorem replayBlocksE_abs (entry : Change → List Nat) (ht : ∀ k1 k2 p, entry (k1, p) = entry (k2, p)) (l : List BInfo)
    (off : Nat) (a : Acc) : replayBlocksE entry l off a = replayAbsK entry (absAll l off) a := by
  induction l generalizing off a with
  | nil => rfl
  | cons p r ih => simp only [replayBlocksE, absAll, ih, replayK_abs entry ht, replayAbsK, List.foldl_append]

def WFK (K : Kind) (sigS : States) (v : Value) : Prop := K.valOK v ∧ (K.valEnc v).1.toNat ≤ sigS.toNat

/-- the loader's byte-wise de-duplication is `canon`, for every signal type: the entries tell well-formed values apart (`K.inj`) -/
theorem replay_canonK (K : Kind) (sigS : States) (xs : List (Nat × Value)) (hx : ∀ x ∈ xs, WFK K sigS x.2) :
    (replayAbsK (K.entry sigS) (xs.map (encVK K)) {}).timesRev.reverse = (canon xs).map (·.1) ∧
    (replayAbsK (K.entry sigS) (xs.map (encVK K)) {}).entriesRev.reverse = (canon xs).map (fun x => K.entry sigS (encVK K x)) := by
  have hfold : replayAbsK (K.entry sigS) (xs.map (encVK K)) {} =
      xs.foldl (fun a x => a.push x.1 (K.entry sigS (0, K.valEnc x.2))) {} := by
    rw [replayAbsK, List.foldl_map]
    congr 1; funext a x
    rw [K.entry_time sigS 0 x.1]; rfl
  obtain ⟨h1, h2⟩ := foldl_push_pushC (fun v => K.entry sigS (0, K.valEnc v)) (WFK K sigS)
    (fun v w hv hw e => K.inj sigS 0 0 v w hv.1 hw.1 hv.2 hw.2 e) xs {} [] hx (fun _ h => by cases h) rfl rfl
  have hc := foldl_pushC_canon (β := Value) id (fun _ _ e => e) xs
  simp only [id, Prod.eta, List.map_id'] at hc
  rw [hfold, h1, h2, ← List.map_reverse, ← List.map_reverse, hc]
  exact ⟨rfl, List.map_congr_left fun x _ => K.entry_time sigS 0 x.1 _⟩

/-- **from the blocks to the loaded signal**: a store whose blocks carry, for signal `i`, the chunks of the changes `xs` loads it
as `canon xs`, every entry aligned to the widest kind over the blocks; `hload`: the type's stream loader decodes chunk streams
with time deltas below `B` -/
theorem load_canonB (B : Nat) (K : Kind) {c : Codec} {i : Nat}
    (hload : ∀ (sigS : States) (cs : List Change), (∀ x ∈ cs, K.fit x.2 ∧ x.1 < B) → ∀ (fuel off : Nat) (a : Acc), cs.length < fuel →
      loaderOf K.tpe sigS fuel (encK K cs) off a = some (replayK (K.entry sigS) cs off a).2)
    {r : Reader} {Lf : List BInfo} (hblocks : r.blocks = Lf.map (fun p => mkBlock c p.1)) (hin : ∀ p ∈ Lf, SigInBlockB B K i p)
    {xs : List (Nat × Value)} (hsem : absAll Lf 0 = xs.map (encVK K)) (hvals : ∀ x ∈ xs, K.valOK x.2)
    (hsmall : ∀ b ∈ r.blocks, b.data.length < 2 ^ 36) :
    ∃ sigS, loadSignal r i K.tpe =
      some { maxStates := sigS, times := (canon xs).map (·.1), entries := (canon xs).map (fun x => K.entry sigS (encVK K x)) } ∧
      ∀ x ∈ xs, WFK K sigS x.2 := by
  have hblk : ∀ p ∈ Lf, InBlock i p := by
    intro p hp
    obtain ⟨hs, hdata, _, _⟩ := hin p hp
    refine ⟨hs, by rw [hdata]; exact (flatten_map_eq_nil K.chunk_ne _).symm, ?_⟩
    -- a block below 2^36 bytes holds no payload whose length would overflow the 32-bit field of the meta word
    have hb : (mkBlock c p.1).data.length < 2 ^ 36 := hsmall _ (by rw [hblocks]; exact List.mem_map.mpr ⟨p, hp, rfl⟩)
    have := payload_le_data c hs
    unfold divCeil
    omega
  -- the widest kind over the blocks is at least the kind of every value
  have hwf : ∀ x ∈ xs, WFK K (joinedStates c Lf) x.2 := by
    intro x hx
    refine ⟨hvals x hx, ?_⟩
    obtain ⟨p, hp, y, hy, e2⟩ := mem_absAll (hsem ▸ List.mem_map.mpr ⟨x, hx, rfl⟩ : encVK K x ∈ absAll Lf 0)
    rw [show (K.valEnc x.2).1 = y.2.1 from congrArg Prod.fst e2]
    exact Nat.le_trans ((hin p hp).2.2.2 y hy) (joinAll_ge (mem_metasOf c hp (List.ne_nil_of_mem hy) 0))
  obtain ⟨ht, hen⟩ := replay_canonK K (joinedStates c Lf) _ hwf
  refine ⟨joinedStates c Lf, ?_, hwf⟩
  cases r with | mk blocks =>
  simp only at hblocks
  rw [hblocks, loadSignal_blocks c K.tpe i Lf hblk, loadBlocks_replay _ _ (K.entry (joinedStates c Lf)) Lf,
    replayBlocksE_abs _ (K.entry_time _) Lf, hsem, Option.map_some, ht, hen]
  -- left over from `loadBlocks_replay`: the type's loader decodes the chunk stream of every block
  intro p hp off a
  obtain ⟨_, hdata, hcs, _⟩ := hin p hp
  rw [hdata]
  exact hload _ p.2.2 hcs _ off a (length_lt_flatten K.chunk_ne _)

/-- **Store with `append` = specification with splits, every signal type**: the encoders of the segments between the splits,
appended in order and finished, load signal `i` as `canon` of the change list the specification records over the whole history -/
theorem store_load_canonK {K : Kind} (hK : KindOK K) {c : Codec} {i : Nat} (hbm : 1 ≤ c.blockMax) (hbmax : c.blockMax ≤ 2 ^ 28)
    {tps : List SigType} (hti : tps[i]? = some K.tpe) {ops : List Op}
    (hreal : ∀ op ∈ ops, ∀ j v r, op = .vcd j v (some r) → r.length = 8)
    {e : Enc} (he : runSegs c tps ops = some e) {s : Spec.St} (hs : foldSpec tps.toArray ops (specInit tps) = some s)
    (hsmall : ∀ b ∈ (finish c e).1.blocks, b.data.length < 2 ^ 36) :
    ∃ sigS, loadSignal (finish c e).1 i K.tpe =
      some { maxStates := sigS,
             times := (canon (s.changesRev.getD i []).reverse).map (·.1),
             entries := (canon (s.changesRev.getD i []).reverse).map (fun x => K.entry sigS (encVK K x)) } ∧
      ∀ x ∈ (s.changesRev.getD i []).reverse, WFK K sigS x.2 := by
  obtain ⟨sg, ss, hsplit, rfl⟩ := splitOps_join ops
  obtain ⟨e0, encs, hm, he⟩ := runSegs_eq_some.mp he
  rw [hsplit] at hm
  obtain ⟨_, _, he0, hr, hcons⟩ := mapM_cons_eq_some.mp hm
  cases hcons
  rw [foldSpec_append, Option.bind_eq_some_iff] at hs
  obtain ⟨s0, hs0, hs⟩ := hs
  obtain ⟨hreal0, hreal⟩ := List.forall_mem_append.mp hreal
  obtain ⟨lf0, hb0, hc0, hin0, hsem0, hlen0, hwf0, hvals0⟩ := seg_refine K hK c i hbm hbmax tps hti (specInit tps) rfl (Or.inl rfl)
    (fun _ => rfl) (by rw [specInit_getD]; nofun) sg hreal0 e0 he0 s0 hs0
  rw [specChunks_init] at hsem0
  have ho0 : Out K c i e0 s0 lf0 :=
    ⟨hb0, hc0, hin0, hsem0, by rw [hlen0]; exact Nat.zero_add _, hwf0, hvals0, spec_skip_fold hs0 (fun _ => rfl)⟩
  obtain ⟨Lf, hoF⟩ := out_fold K hK c i hbm hbmax tps hti ss e0 s0 lf0 encs ho0 hreal hr e s he hs
  exact load_canonB (2 ^ 28) K K.load hoF.blocks hoF.inblk hoF.sem (fun x hx => hoF.vals x (List.mem_reverse.mp hx)) hsmall

end Wellen.Store
